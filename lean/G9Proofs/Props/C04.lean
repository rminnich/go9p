/-
  C04 — The fid table follows the protocol history exactly, against the protocol's own definition of the
  valid fids (`specValid`, `specRun`).  Model: G9.SrvSeq, each request answered before the next one is sent;
  the last part is about concurrent requests (G9.FidLife).  `impl`, the file-server implementation, is
  universally quantified.
-/
import G9Proofs.Lemmas.StepRefs
import G9Proofs.Lemmas.FidLife
namespace G9.C04
open G9.Srv

/-- between requests every fid in the table has exactly one reference, and NOFID is not in it -/
structure WF (fs : Fids) : Prop where
  pos : RefsPos fs
  one : ∀ k, refOf fs k ≤ 1
  nofid : refOf fs NOFID = 0

def valid (fs : Fids) (k : UInt32) : Bool := decide (1 ≤ refOf fs k)

/-- `valid` is membership in the table -/
theorem valid_iff_lookup (fs : Fids) (h : RefsPos fs) (k : UInt32) :
    valid fs k = (lookup fs k).isSome := by
  unfold valid
  have := refOf_pos_iff h k
  cases hl : (lookup fs k).isSome <;> simp_all

/-- The protocol's definition, written from the statement of 9P: a fid becomes valid through
    a successful Tauth, Tattach or complete Twalk; it is invalid after a successful Tclunk
    or any Tremove; nothing else changes the set. -/
def specValid (v : UInt32 → Bool) (t : Msg) (rep : Reply) (k : UInt32) : Bool :=
  match t, rep with
  | .tauth afid _ _ _, .r (.rauth _) => v k || k == afid
  | .tattach fid _ _ _ _, .r (.rattach _) => v k || k == fid
  | .twalk _ nf names, .r (.rwalk qs) => v k || (qs.length == names.length && k == nf)
  | .tclunk f, .r .rclunk => v k && k != f
  | .tremove f, _ => v k && k != f
  | _, _ => v k

/-- what the kind of post-handler that fires tells about request and reply, and what the
    protocol's definition says in each case -/
theorem postKind_spec (v : UInt32 → Bool) (t : Msg) (rep : Reply) (k : UInt32) :
    match postKind t rep with
    | .auth x | .attach x _ =>
        msgFid t = none ∧ newFid t = some x ∧ (∃ m, rep = .r m) ∧ specValid v t rep k = (v k || k == x)
    | .walk f nf names qs =>
        msgFid t = some f ∧ newFid t = some nf ∧ (∃ m, rep = .r m) ∧
          specValid v t rep k = (v k || (qs.length == names.length && k == nf))
    | .release f => msgFid t = some f ∧ specValid v t rep k = (v k && k != f)
    | _ => specValid v t rep k = v k := by
  fun_cases postKind t rep
  -- the catch-all of `postKind` knows that none of its eight equations applies: an arm of `specValid` is then
  -- its own catch-all, or has the left side of one of them
  case case9 => dsimp only; unfold specValid; split <;> first | rfl | (exfalso; solve_by_elim)
  -- an equation of `postKind`: same left side in `specValid`, or none (`topen`, `tcreate`, `tread`)
  all_goals first | rfl | exact ⟨rfl, rfl⟩ | exact ⟨rfl, rfl, ⟨_, rfl⟩, rfl⟩

theorem init_wf (cfg : Cfg) : WF (Conn.init cfg).fids :=
  ⟨fun _ _ h => (by cases h), fun _ => Nat.zero_le _, rfl⟩

/-- One request: the table stays well-formed and the set of valid fids changes exactly as
    the protocol says, given the request and the reply that was sent — whatever the
    implementation answered. -/
theorem step_valid (cfg : Cfg) (impl : Impl) (c : Conn) (t : Msg) (hwf : WF c.fids) :
    WF (step cfg impl c t).1.fids ∧
    ∀ k, valid (step cfg impl c t).1.fids k =
      specValid (valid c.fids) t (step cfg impl c t).2.reply k := by
  have hpc := pre_cases cfg impl c t
  have hok := hpc.refs
  have nonempty : ∀ {k}, k ∈ (pre cfg impl c t).held → (pre cfg impl c t).held.isEmpty = false :=
    fun hk => List.isEmpty_eq_false_iff_exists_mem.2 ⟨_, hk⟩
  have created : ∀ {m k}, stepRep cfg impl c t = .r m → newFid t = some k → msgFid t ≠ some k →
      refOf c.fids k = 0 ∧ present (pre cfg impl c t).c.fids k ∧
        (pre cfg impl c t).held.isEmpty = false ∧ k ≠ NOFID := by
    intro m k hrep hn hm
    obtain ⟨calls, ans, hans⟩ := stepRep_r hrep
    obtain ⟨hin, hl, hnn⟩ := (hpc.of_answer hans).2 k hn hm
    exact ⟨refOf_of_none hl, hok.present hwf.pos hin, nonempty hin, hnn⟩
  -- The count of `k` after the step is `n`, its count before, plus what the post-handler retains, minus what it
  -- releases (`step_refOf`): kind by kind `n + [k = x]`, `n - [k = f]` or `n`, to be compared with the protocol.
  have key : ∀ k, refOf (step cfg impl c t).1.fids k ≤ 1 ∧
      (k = NOFID → refOf (step cfg impl c t).1.fids k = 0) ∧
      valid (step cfg impl c t).1.fids k = specValid (valid c.fids) t (stepRep cfg impl c t) k := by
    intro k
    have hk := (step_refOf cfg impl c t hwf.pos k).2
    have h1 := hwf.one k
    have hz : k = NOFID → refOf c.fids k = 0 := fun e => by subst e; exact hwf.nofid
    have hs := postKind_spec (valid c.fids) t (stepRep cfg impl c t) k
    unfold valid at hs ⊢
    rw [hk]
    unfold postRet postRel
    revert hs
    cases postKind t (stepRep cfg impl c t) with
    | auth x | attach x _ =>
      intro ⟨hm, hn, ⟨m, hrep⟩, hs⟩
      obtain ⟨h0, hp, he, hnn⟩ := created hrep hn (hm ▸ nofun)
      rw [hs]
      -- the request holds the new fid `x`: `n + [k = x]`
      simp only [he, Bool.false_eq_true, if_false, hp, and_true]
      by_cases hka : k = x
      · subst hka; simp [h0]; exact hnn   -- from 0 to 1, and valid by the protocol
      · simp [hka]; exact ⟨h1, hz⟩
    | walk f nf names qs =>
      intro ⟨hm, hn, ⟨m, hrep⟩, hs⟩
      obtain ⟨calls, ans, hans⟩ := stepRep_r hrep
      obtain ⟨hin, hpc⟩ := (hpc.of_answer hans).1 f hm
      have hvf : 1 ≤ refOf c.fids f := (refOf_pos_iff hwf.pos f).2 hpc
      rw [hs]
      simp only [nonempty hin, Bool.false_eq_true, if_false, hok.present hwf.pos hin, true_and]
      by_cases hnf : nf = f
      · -- in place: nothing retained; `f`, which the protocol may declare valid, is so already
        subst hnf
        simp only [ne_eq, not_true_eq_false, false_and, and_false, if_false, Nat.add_zero, Nat.sub_zero]
        refine ⟨h1, hz, ?_⟩
        by_cases hkn : k = nf
        · subst hkn; simp [hvf]
        · simp [hkn]
      · -- to the new fid `nf`: `n + [complete ∧ k = nf]`
        obtain ⟨h0, hpn, _, hnn⟩ := created hrep hn (fun h => hnf (Option.some.inj (hm.symm.trans h)).symm)
        simp only [hpn, true_and]
        by_cases hkn : k = nf
        · subst hkn   -- from 0 to 1 if the walk is complete, as the protocol says
          by_cases hl : qs.length = names.length <;> simp [hl, hnf, h0, hnn]
        · simp only [hkn, and_false, if_false, Nat.add_zero, Nat.sub_zero]
          exact ⟨h1, hz, by simp [hkn]⟩
    | release f =>
      intro ⟨hm, hs⟩
      rw [hs]
      cases he : (pre cfg impl c t).held.isEmpty with
      | true =>
        simp only [if_true]
        -- nothing held: refused, because `f` was not valid
        have hf0 : refOf c.fids f = 0 := by
          rcases hpc.of_empty (List.isEmpty_iff.1 he) hm with hn | hl
          · subst hn; exact hwf.nofid
          · exact refOf_of_none hl
        refine ⟨h1, hz, ?_⟩
        by_cases hkf : k = f
        · subst hkf; simp [hf0]   -- invalid before and after
        · simp [hkf]
      | false =>
        -- `n - [k = f]`
        simp only [Bool.false_eq_true, if_false, Nat.add_zero]
        by_cases hkf : k = f
        · subst hkf; simp; omega   -- `n ≤ 1`, so `n - 1 = 0`: invalid
        · simp only [hkf, if_false, Nat.sub_zero]
          exact ⟨h1, hz, by simp [hkf]⟩
    | opened | created | read | none =>
      intro hs
      rw [hs]
      -- nothing retained or released: `n`
      simp only [Nat.add_zero, Nat.sub_zero, ite_self]; exact ⟨h1, hz, by simp⟩
  refine ⟨⟨(step_refOf cfg impl c t hwf.pos 0).1, fun k => (key k).1, (key NOFID).2.1 rfl⟩, fun k => ?_⟩
  rw [step_reply]; exact (key k).2.2

/-- the protocol's set of valid fids after a whole history of (request, reply) pairs -/
def specRun (v : UInt32 → Bool) : List (Msg × Reply) → (UInt32 → Bool)
  | [] => v
  | (t, rep) :: rest => specRun (specValid v t rep) rest

theorem specRun_congr (v v' : UInt32 → Bool) (h : ∀ k, v k = v' k) (l : List (Msg × Reply)) (k : UInt32) :
    specRun v l k = specRun v' l k := by
  have : v = v' := funext h
  rw [this]

/-- For every history — any length, any requests, any implementation answers — the table
    between requests is well-formed and the valid fids are exactly those the protocol
    history (requests and the replies that were sent) determines. -/
theorem fids_refine_spec (cfg : Cfg) (hs : List (Msg × Impl)) (c : Conn) (hwf : WF c.fids) :
    WF (run cfg c hs).1.fids ∧
    ∀ k, valid (run cfg c hs).1.fids k =
      specRun (valid c.fids) ((hs.map (·.1)).zip ((run cfg c hs).2.map (·.reply))) k := by
  induction hs generalizing c with
  | nil => exact ⟨hwf, fun k => rfl⟩
  | cons p hs ih =>
    obtain ⟨t, impl⟩ := p
    obtain ⟨hwf', hv⟩ := step_valid cfg impl c t hwf
    obtain ⟨h1, h2⟩ := ih (step cfg impl c t).1 hwf'
    refine ⟨h1, fun k => ?_⟩
    simp only [run, List.map_cons, List.zip_cons_cons, specRun]
    rw [h2 k]
    exact specRun_congr _ _ hv _ k

/-- …in particular from a fresh connection. -/
theorem fids_refine_spec_init (cfg : Cfg) (hs : List (Msg × Impl)) :
    WF (run cfg (Conn.init cfg) hs).1.fids ∧
    ∀ k, valid (run cfg (Conn.init cfg) hs).1.fids k =
      specRun (fun _ => false) ((hs.map (·.1)).zip ((run cfg (Conn.init cfg) hs).2.map (·.reply))) k := by
  obtain ⟨h1, h2⟩ := fids_refine_spec cfg hs (Conn.init cfg) (init_wf cfg)
  refine ⟨h1, fun k => ?_⟩
  rw [h2 k]
  exact specRun_congr _ _ (fun k => by simp [valid, Conn.init, refOf, lookup]) _ k

/-- A request naming a fid that is not valid (NOFID included) is refused with exactly the
    'unknown fid' error and reaches the implementation in no way; the table is untouched. -/
theorem unknown_fid_refused (cfg : Cfg) (impl : Impl) (c : Conn) (t : Msg) (f : UInt32)
    (ht : msgFid t = some f) (hinv : lookup c.fids f = none ∨ f = NOFID) :
    (step cfg impl c t).2.reply = .err .unknownfid ∧ (step cfg impl c t).2.calls = [] ∧
    (step cfg impl c t).2.destroyed = [] ∧ (step cfg impl c t).1.fids = c.fids := by
  have hpre : pre cfg impl c t = ⟨c, [], .refuse .unknownfid⟩ := by
    cases t <;> cases ht <;> exact fid_unknown hinv
  rw [step_of_refused_early hpre]
  exact ⟨rfl, rfl, rfl, rfl⟩

/-- A Tattach or Tauth that would bind an already valid fid is refused with 'fid already in
    use' without reaching the implementation. -/
theorem attach_in_use_refused (cfg : Cfg) (impl : Impl) (c : Conn) (fid afid : UInt32)
    (un an : Bytes) (n : UInt32) (r : FidRec) (hl : lookup c.fids fid = some r) (hn : fid ≠ NOFID) :
    (step cfg impl c (.tattach fid afid un an n)).2.reply = .err .inuse ∧
    (step cfg impl c (.tattach fid afid un an n)).2.calls = [] ∧
    (step cfg impl c (.tattach fid afid un an n)).1.fids = c.fids := by
  rw [step_of_refused_early (show pre cfg impl c (.tattach fid afid un an n) = _ from bind_taken hn hl)]
  exact ⟨rfl, rfl, rfl⟩

theorem auth_in_use_refused (cfg : Cfg) (impl : Impl) (c : Conn) (afid : UInt32)
    (un an : Bytes) (n : UInt32) (r : FidRec) (hl : lookup c.fids afid = some r) (hn : afid ≠ NOFID) :
    (step cfg impl c (.tauth afid un an n)).2.reply = .err .inuse ∧
    (step cfg impl c (.tauth afid un an n)).2.calls = [] ∧
    (step cfg impl c (.tauth afid un an n)).1.fids = c.fids := by
  rw [step_of_refused_early (show pre cfg impl c (.tauth afid un an n) = _ from bind_taken hn hl)]
  exact ⟨rfl, rfl, rfl⟩

/-- fid numbers are private to their connection: a request on one connection of a server
    leaves every other connection's table as it was -/
theorem conn_private (cfg : Cfg) (impl : Impl) (conns : Nat → Conn) (i j : Nat) (t : Msg) (h : j ≠ i) :
    (fun n => if n = i then (step cfg impl (conns i) t).1 else conns n) j = conns j := by
  simp [h]

/-! ### non-vacuity: a concrete history on which the statements have content -/

def exCfg : Cfg := { srvMsize := 8192, srvDotu := true, hasAuth := false,
                     uid2user := fun n => some n.toNat, uname2user := fun _ => none }
def okImpl : Impl := fun call =>
  match call.op with
  | .attach => .r (.rattach { typ := 0x80, vers := 0, path := 1 })
  | .walk => .r (.rwalk [{ typ := 0, vers := 0, path := 2 }])
  | .clunk => .r .rclunk
  | _ => .e [] 5

example : ((run exCfg (Conn.init exCfg)
    [(.tattach 1 NOFID [] [] 7, okImpl), (.twalk 1 2 [[0x61]], okImpl), (.tclunk 1, okImpl)]).1.fids.map (·.1))
    = [2] := by decide

theorem ite01 (p : Prop) [Decidable p] : (if p then 1 else 0 : Nat) ≤ 1 := by
  by_cases h : p <;> simp [h]

/-- FidDestroy, exactly once and on time: in the step of any request, a fid number is reported
    destroyed at most once; it is reported when the request makes a valid fid invalid; and whatever
    is reported is invalid afterwards. The report is part of the same step as the reply. -/
theorem destroyed_exactly_once (cfg : Cfg) (impl : Impl) (c : Conn) (t : Msg) (hwf : WF c.fids) (k : UInt32) :
    (step cfg impl c t).2.destroyed.count k ≤ 1 ∧
    (valid c.fids k = true → valid (step cfg impl c t).1.fids k = false → (step cfg impl c t).2.destroyed.count k = 1) ∧
    ((step cfg impl c t).2.destroyed.count k = 1 → valid (step cfg impl c t).1.fids k = false) := by
  -- the count goes up to `m` and `r` releases follow (`step_release`): destroyed iff `1 ≤ m ≤ r`, valid afterwards
  -- iff `r < m`
  obtain ⟨m, r, hm, hv, hd⟩ := step_release cfg impl c t hwf.pos k
  unfold valid
  rw [hv, hd]
  simp only [decide_eq_true_eq, decide_eq_false_iff_not]
  split <;> omega

theorem valid_iff_bound (fs : Fids) (h : RefsPos fs) (k : UInt32) :
    valid fs k = (userAt fs k).isSome := by
  rw [valid_iff_lookup fs h k]
  unfold userAt
  cases lookup fs k <;> rfl

/-- One request of any kind — failed, partial, unrelated, or on the fid itself — whatever the
    implementation answers: a fid that is still valid afterwards is bound to the user it was
    bound to before. -/
theorem user_binding_stable (cfg : Cfg) (impl : Impl) (c : Conn) (t : Msg) (hwf : WF c.fids)
    (k : UInt32) (u : Nat) (hb : userAt c.fids k = some u)
    (hv : valid (step cfg impl c t).1.fids k = true) :
    userAt (step cfg impl c t).1.fids k = some u := by
  rcases step_user cfg impl c t k u hb with h | h
  · rw [valid_iff_bound _ (step_valid cfg impl c t hwf).1.pos, h] at hv
    cases hv
  · exact h

/-- the fid stays valid after every request of a history -/
def validThroughout (cfg : Cfg) (c : Conn) (k : UInt32) : List (Msg × Impl) → Prop
  | [] => True
  | (t, impl) :: rest =>
    valid (step cfg impl c t).1.fids k = true ∧ validThroughout cfg (step cfg impl c t).1 k rest

/-- …and so over any history, of any length: as long as the fid stays valid it stays bound to
    the same user. -/
theorem user_binding_history (cfg : Cfg) (hs : List (Msg × Impl)) (c : Conn) (hwf : WF c.fids)
    (k : UInt32) (u : Nat) (hb : userAt c.fids k = some u) (hv : validThroughout cfg c k hs) :
    userAt (run cfg c hs).1.fids k = some u := by
  induction hs generalizing c with
  | nil => exact hb
  | cons p hs ih =>
    obtain ⟨t, impl⟩ := p
    obtain ⟨hv1, hv2⟩ := hv
    have h1 := user_binding_stable cfg impl c t hwf k u hb hv1
    exact ih (step cfg impl c t).1 (step_valid cfg impl c t hwf).1 h1 hv2

/-- Who a new fid is bound to: a fid that was not valid and is valid after a request was bound
    by that request — by a Tauth or Tattach naming it, to the user the request names; by a Twalk
    to it, to the user of the fid walked from.  No other request binds a fid, and none binds it
    to anyone else. -/
theorem new_fid_bound_by_request (cfg : Cfg) (impl : Impl) (c : Conn) (t : Msg) (hwf : WF c.fids)
    (k : UInt32) (u : Nat) (h0 : valid c.fids k = false)
    (h1 : userAt (step cfg impl c t).1.fids k = some u) : NewBy cfg c t k u := by
  have hn : userAt c.fids k = none :=
    Option.not_isSome_iff_eq_none.1 (by rw [← valid_iff_bound _ hwf.pos, h0]; exact Bool.false_ne_true)
  obtain ⟨hwf', hspec⟩ := step_valid cfg impl c t hwf
  have hv : valid (step cfg impl c t).1.fids k = true := by
    rw [valid_iff_bound _ hwf'.pos, h1]; rfl
  have hpre : userAt (pre cfg impl c t).c.fids k = some u := by
    rcases step_shrinks cfg impl c t k with h4 | h4
    · rw [h4] at h1; cases h1
    · rw [← h4]; exact h1
  rcases (pre_cases cfg impl c t).users with h | ⟨k0, u', ⟨_, hb⟩, hby⟩
  · rw [h, hn] at hpre; cases hpre
  · rw [hb] at hpre
    split at hpre
    · rename_i hk
      cases hpre
      rcases hby with ⟨e, he⟩ | h
      · -- a refused request makes nothing valid
        have := hspec k
        rw [hv, (step_of_refuse he).1] at this
        unfold specValid at this
        cases t <;> simp [h0] at this
      · exact hk ▸ h
    · rw [hn] at hpre; cases hpre

/-! non-vacuity: in the example history fid 2 is created by the walk from fid 1 and carries its user -/
example : userAt (run exCfg (Conn.init exCfg)
    [(.tattach 1 NOFID [] [] 7, okImpl), (.twalk 1 2 [[0x61]], okImpl), (.tclunk 1, okImpl)]).1.fids 2
    = some 7 := by decide

/-- While the connection is up, a valid fid — one whose creating request succeeded and that has not
    been clunked or removed — is the fid the table holds under its number, and has not been
    reported destroyed, whatever else runs on the connection: other requests on the same number,
    DecRefs of older fids that had the number, requests still creating fids. -/
theorem valid_fid_found_under_concurrency (es : List FidLife.FEv) (s : FidLife.FS)
    (h : FidLife.FS.init.run es = some s) (o : Nat) (ho : o < s.n) (ht : (s.obj o).tbl = true)
    (hs : s.snap = none) : s.pool (s.obj o).num = some o ∧ (s.obj o).destroyed = false := by
  have h0 := (FidLife.inv_run es _ _ FidLife.inv_init h).objs o ho
  exact ⟨h0.tblOpen ht hs, (h0.acct.live (h0.acct.pos (.inl ht))).1⟩

/-- …and the table never holds anything but a fid object that was created for that number. -/
theorem table_entry_is_its_number (es : List FidLife.FEv) (s : FidLife.FS)
    (h : FidLife.FS.init.run es = some s) (k o : Nat) (hp : s.pool k = some o) :
    o < s.n ∧ (s.obj o).num = k :=
  (FidLife.inv_run es _ _ FidLife.inv_init h).poolOk k o hp

/-- A fid number that the table holds — for a valid fid or for one a request is still creating —
    cannot be taken by another request: `FidNew` refuses it, whatever else is going on, and the
    table, its fid and every other fid stay as they are. -/
theorem number_in_use_is_refused (s : FidLife.FS) (k o : Nat) (hp : s.pool k = some o) :
    s.step (.new k) = none := by
  simp [FidLife.FS.step, hp]

/-- in particular the fid a request is creating keeps its number until that request has ended:
    in every reachable state a pending fid that is in the table makes `FidNew` of its number fail -/
theorem fid_being_created_keeps_its_number (es : List FidLife.FEv) (s : FidLife.FS)
    (_h : FidLife.FS.init.run es = some s) (o : Nat) (_hpend : (s.obj o).pending = true) (hin : s.inpool o) :
    s.step (.new (s.obj o).num) = none :=
  number_in_use_is_refused s _ o hin

end G9.C04
