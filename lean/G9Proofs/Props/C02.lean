/-
  C02 — Decoding is total and bounded on arbitrary bytes: every byte string, both dialects.
-/
import G9Proofs.Lemmas.WireDecode
import G9Proofs.Lemmas.WireMsg
namespace G9.C02
open Go

/-- `Unpack` returns an error or a message, never a trap, on every byte string. -/
theorem unpack_total (dotu : Bool) (bs : Bytes) : Go.unpack dotu bs ≠ .panic :=
  (unpack_post dotu bs).ne_panic

/-- …and so does `UnpackDir`. -/
theorem unpackDir_total (dotu : Bool) (bs : Bytes) : Go.unpackDir dotu bs ≠ .panic := by
  refine Res.Post.ne_panic (Q := fun _ => True) (.guard fun _ => ?_)
  exact (gstat_post dotu bs).bind fun (_, _) _ => trivial

/-- On success the consumed length is the size prefix, at least 7, at most the input. -/
theorem unpack_ok_shape (dotu : Bool) (bs : Bytes) (tag : UInt16) (m : Msg) (n : Nat)
    (h : Go.unpack dotu bs = .ok (tag, m, n)) :
    n = (dec32 (bs.take 4)).toNat ∧ 7 ≤ n ∧ n ≤ bs.length ∧ 7 ≤ bs.length := by
  obtain ⟨hn, h7, hle, -⟩ := (unpack_post dotu bs).of_ok h
  exact ⟨hn, h7, hle, by omega⟩

/-- What a successful decode returns: the type is the one in byte 4 and a defined message type,
    the message already carries Go's defaults for what the dialect lacks, and all its fields —
    fixed and variable-length — fit inside the packet: the protocol encoding of the decoded
    fields is at most 4 bytes longer than the packet's body (4 only for a .u Tauth/Tattach that
    came without the numeric uid). -/
theorem unpack_ok_fields (dotu : Bool) (bs : Bytes) (tag : UInt16) (m : Msg) (n : Nat)
    (h : Go.unpack dotu bs = .ok (tag, m, n)) :
    m.code = (bs.drop 4).headD 0 ∧
    ¬ (m.code.toNat < Generated.Tversion ∨ m.code.toNat ≥ Generated.Tlast) ∧
    Go.norm dotu m = m ∧
    7 + (Spec.body dotu m).length ≤ n + 4 ∧
    (n + 4 < 4294967296 → Spec.RepW dotu m) := by
  obtain ⟨-, h7, -, ht, c1, c2, c3, c4⟩ := (unpack_post dotu bs).of_ok h
  exact ⟨c1, c1 ▸ ht, c2, by omega, fun hbig => c4 (by omega)⟩

/-- Re-encoding the decoded fields gives a packet that decodes to the same fields (and the same
    tag), consuming exactly that packet.  The hypothesis excludes only packets within 4 bytes
    of 4 GiB, whose re-encoding (a numeric uid added to a Tauth/Tattach) could not carry its
    own size in size[4]. -/
theorem reencode_decodes_same (dotu : Bool) (bs : Bytes) (tag : UInt16) (m : Msg) (n : Nat)
    (h : Go.unpack dotu bs = .ok (tag, m, n)) (hbig : n + 4 < 4294967296) (rest : Bytes) :
    Go.unpack dotu (Spec.encode dotu tag m ++ rest) =
      .ok (tag, m, (Spec.encode dotu tag m).length) := by
  obtain ⟨_, _, hnorm, _, hrep⟩ := unpack_ok_fields dotu bs tag m n h
  have := unpack_encode_repW dotu tag m rest (hrep hbig)
  rw [hnorm] at this
  exact this

/-- The result — message or error — does not depend on bytes beyond the declared size. -/
theorem unpack_prefix_indep (dotu : Bool) (bs : Bytes)
    (hn7 : 7 ≤ (dec32 (bs.take 4)).toNat) (hn : (dec32 (bs.take 4)).toNat ≤ bs.length) :
    Go.unpack dotu bs = Go.unpack dotu (bs.take (dec32 (bs.take 4)).toNat) := by
  generalize hN : (dec32 (bs.take 4)).toNat = N at *
  have hl : (bs.take N).length = N := by rw [List.length_take]; omega
  have key (k j : Nat) (h : k + j ≤ N) : ((bs.take N).drop k).take j = (bs.drop k).take j := by
    rw [List.drop_take, List.take_take, Nat.min_eq_left (by omega)]
  have hd4 : ((bs.take N).drop 4).headD 0 = (bs.drop 4).headD 0 := by
    simp only [List.headD_eq_head?_getD, List.head?_drop, List.getElem?_take, if_pos (show 4 < N by omega)]
  rw [unpack_eq dotu bs (by omega), unpack_eq dotu (bs.take N) (by omega),
    show (bs.take N).take 4 = bs.take 4 from key 0 4 (by omega), hd4, key 5 2 (by omega), hN, hl,
    key 7 (N - 7) (by omega)]
  simp only [show (N > bs.length ∨ N < 7) ↔ (N > N ∨ N < 7) by omega]

/-- A declared size below 7 is an error whatever follows. -/
theorem unpack_size_lt7 (dotu : Bool) (bs : Bytes) (h : (dec32 (bs.take 4)).toNat < 7) :
    ∃ e, Go.unpack dotu bs = .err e := by
  by_cases h7 : bs.length < 7
  · exact ⟨.bufShort, by unfold Go.unpack; rw [if_pos h7]⟩
  · refine ⟨.sizeBad, ?_⟩
    rw [unpack_eq dotu bs (by omega), if_pos (Or.inr h)]

/-- No allocation is driven by a count field: the `make` calls of Twalk/Rwalk are reached
    only behind a guard, so they allocate at most 8 bytes per input byte.  (The other
    allocations are copies of sub-slices of the input and one fixed-size `Fcall`.) -/
theorem unpack_alloc_bound (t : UInt8) (p : Bytes) : Go.makeBytes t p ≤ 8 * p.length := by
  unfold Go.makeBytes
  split
  · split
    next m q hq =>
      -- q is what is left of p after fid[4] newfid[4] nwname[2]
      peel hq a p1 e1
      peel hq b p2 e2
      have := gint32_inv e1; have := gint32_inv e2; have := gint16_inv hq
      split <;> omega
    · omega
  · split
    · split
      next m q hq =>
        have := gint16_inv hq
        split <;> omega
      · omega
    · omega

/-- a Tclunk of 7 bytes, too short for its fid[4], is an error, not a trap -/
example : Go.unpack false [7, 0, 0, 0, 120, 1, 0] = .err .szerror := by decide

/-- and a well-formed one decodes -/
example : Go.unpack false [11, 0, 0, 0, 120, 1, 0, 5, 0, 0, 0] = .ok (1, .tclunk 5, 11) := by decide

/-- a .u Tauth without the numeric uid decodes, and its re-encoding is 4 bytes longer -/
example : Go.unpack true [19, 0, 0, 0, 102, 1, 0, 9, 0, 0, 0, 4, 0, 97, 98, 99, 100, 0, 0]
    = .ok (1, .tauth 9 [97, 98, 99, 100] [] NOUID, 19) := by decide
example : (Spec.encode true 1 (.tauth 9 [97, 98, 99, 100] [] NOUID)).length = 23 := by decide

end G9.C02
