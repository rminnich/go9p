/-
  C16 — Ufs names and metadata mirror the exported tree (models: G9.UfsLogic walked / ufsWalk / fwalk;
  G9.UfsMeta npmode / qidType).  `resolve`, what a name list designates, is the specification.  What exists in
  the tree is a parameter (`step p name` = what `Lstat(p + "/" + name)` finds): any tree.
-/
import G9.UfsLogic
import G9.UfsMeta
namespace G9.C16
open G9.Ufs

variable {P N : Type} (step : P → N → Option P)

/-- resolving a whole name list -/
def resolve : P → List N → Option P
  | p, [] => some p
  | p, n :: ns => (step p n).bind (fun q => resolve q ns)

theorem resolve_append (a b : List N) (p : P) :
    resolve step p (a ++ b) = (resolve step p a).bind (fun q => resolve step q b) := by
  induction a generalizing p with
  | nil => rfl
  | cons x a ih => cases h : step p x <;> simp [resolve, h, ih]

theorem resolve_eq_walked (p : P) (names : List N) :
    resolve step p names =
      if (walked step p names).1 = names.length then some (walked step p names).2 else none := by
  induction names generalizing p with
  | nil => rfl
  | cons n ns ih => cases h : step p n <;> simp [resolve, walked, h, ih]

/-- Rwalk carries one qid per existing leading element: `k` elements resolve, and if fewer
    than all, the next one does not exist. -/
theorem walk_prefix (p : P) (names : List N) :
    (walked step p names).1 ≤ names.length ∧
    resolve step p (names.take (walked step p names).1) = some (walked step p names).2 ∧
    ((walked step p names).1 < names.length →
      ∃ n, names[(walked step p names).1]? = some n ∧ step (walked step p names).2 n = none) := by
  induction names generalizing p with
  | nil => simp [walked, resolve]
  | cons n ns ih =>
    cases hs : step p n with
    | none => simp [walked, hs, resolve]
    | some q => simpa [walked, hs, resolve] using ih q

theorem ufsWalk_eq (p : P) (names : List N) : ufsWalk step p names =
    if (walked step p names).1 = 0 ∧ names ≠ [] then .enoent
    else .rwalk (walked step p names).1
      (if (walked step p names).1 = names.length then some (walked step p names).2 else none) := rfl

/-- an error iff the first element of a non-empty list is missing; the new fid designates
    the target only when every element was walked, otherwise nothing is committed (both
    fids stay where they were — also when newfid is the fid itself) -/
theorem walk_commits_only_complete (p : P) (names : List N) :
    (ufsWalk step p names = .enoent ↔ ∃ n ns, names = n :: ns ∧ step p n = none) ∧
    (∀ k q, ufsWalk step p names = .rwalk k (some q) → k = names.length ∧ resolve step p names = some q) ∧
    (∀ k, ufsWalk step p names = .rwalk k none → k < names.length) := by
  have hle := (walk_prefix step p names).1
  rw [ufsWalk_eq, resolve_eq_walked]
  refine ⟨?_, fun k q h => ?_, fun k h => ?_⟩
  · cases names with
    | nil => simp
    | cons n ns => cases hs : step p n <;> simp [walked, hs]
  · split at h
    · cases h
    · split at h <;> cases h
      rename_i hk
      exact ⟨hk, if_pos hk⟩
  · split at h
    · cases h
    · split at h <;> cases h
      omega

theorem fwalk_succ (fuel : Nat) (p : P) (names : List N) :
    fwalk step (fuel + 1) p names = (resolve step p (names.take 16)).bind fun q =>
      if (names.drop 16).isEmpty then some q else fwalk step fuel q (names.drop 16) := by
  rw [fwalk, ufsWalk_eq, resolve_eq_walked]
  by_cases hk : (walked step p (names.take 16)).1 = (names.take 16).length
  · have hne : ¬ ((walked step p (names.take 16)).1 = 0 ∧ names.take 16 ≠ []) := fun ⟨h0, hne⟩ =>
      hne (List.eq_nil_of_length_eq_zero (hk ▸ h0))
    rw [if_neg hne, if_pos hk]
    simp only [Option.bind_some, hk, ne_eq, not_true_eq_false, if_false]
  · rw [if_neg hk]
    by_cases hc : (walked step p (names.take 16)).1 = 0 ∧ names.take 16 ≠ []
    · rw [if_pos hc]; rfl
    · rw [if_neg hc]; rfl

/-- `FWalk` resolves paths of any depth: cutting the names into Twalks of 16 and continuing
    in place yields a fid on exactly the object the whole path designates, or fails — and
    it does not matter where the cuts fall. -/
theorem fwalk_resolves : ∀ (fuel : Nat) (p : P) (names : List N), names.length < 16 * fuel →
    fwalk step fuel p names = resolve step p names := by
  intro fuel
  induction fuel with
  | zero => intro p names h; omega
  | succ fuel ih =>
    intro p names hlen
    rw [fwalk_succ, ← List.take_append_drop 16 names, resolve_append, List.take_append_drop]
    congr 1
    funext q
    cases hd : names.drop 16 with
    | nil => rfl
    | cons x xs =>
      have := congrArg List.length hd
      rw [List.length_drop, List.length_cons] at this
      rw [← hd, ih q _ (by rw [List.length_drop]; omega)]
      simp [hd]

/-! ### non-vacuity: a three-level tree -/
def tstep : Nat → String → Option Nat
  | 0, "a" => some 1
  | 1, "b" => some 2
  | 2, "c" => some 3
  | _, _ => none

example : ufsWalk tstep 0 ["a", "b", "x"] = .rwalk 2 none := rfl
example : ufsWalk tstep 0 ["x"] = .enoent := rfl
example : fwalk tstep 2 0 ["a", "b", "c"] = some 3 := by decide


section filemeta
open G9.UfsMeta

theorem testBit_flag (b : Bool) (v k : Nat) : (flag b v).testBit k = (b && v.testBit k) := by
  cases b <;> simp [flag]

/-- every bit of the reported mode word: each field of the `FMode` sits in a bit of its own -/
theorem testBit_npmode (m : FMode) (dotu : Bool) (k : Nat) :
    (npmode m dotu).testBit k =
      (m.perm.testBit k || m.dir && decide (31 = k) ||
        dotu && (m.symlink && decide (25 = k) || m.socket && decide (20 = k) || m.pipe && decide (21 = k) ||
          m.device && decide (23 = k) || m.setuid && decide (19 = k) || m.setgid && decide (18 = k))) := by
  -- `if dotu then … else 0` is `flag dotu …`; every constant is a power of two
  rw [npmode, ← flag]
  simp only [Nat.testBit_or, testBit_flag, show DMDIR = 2 ^ 31 from rfl, show DMSYMLINK = 2 ^ 25 from rfl,
    show DMSOCKET = 2 ^ 20 from rfl, show DMNAMEDPIPE = 2 ^ 21 from rfl, show DMDEVICE = 2 ^ 23 from rfl,
    show DMSETUID = 2 ^ 19 from rfl, show DMSETGID = 2 ^ 18 from rfl, Nat.testBit_two_pow]

/-- The mode word reported for a file: its low nine bits are the file's permission bits, the
    directory bit is set exactly for directories, and — on a 9P2000.u connection only — the
    symlink, device, named-pipe, socket, setuid and setgid bits exactly when the file has them;
    nothing else is ever set. -/
theorem mode_reports_the_file (m : FMode) (dotu : Bool) (hp : m.perm < 512) :
    npmode m dotu % 512 = m.perm ∧
    (npmode m dotu).testBit 31 = m.dir ∧
    (npmode m dotu).testBit 25 = (dotu && m.symlink) ∧
    (npmode m dotu).testBit 23 = (dotu && m.device) ∧
    (npmode m dotu).testBit 21 = (dotu && m.pipe) ∧
    (npmode m dotu).testBit 20 = (dotu && m.socket) ∧
    (npmode m dotu).testBit 19 = (dotu && m.setuid) ∧
    (npmode m dotu).testBit 18 = (dotu && m.setgid) := by
  have high : ∀ k, 9 ≤ k → m.perm.testBit k = false := fun k hk =>
    Nat.testBit_lt_two_pow (Nat.lt_of_lt_of_le hp (Nat.pow_le_pow_right (n := 2) (by decide) hk))
  refine ⟨Nat.eq_of_testBit_eq fun i => ?_, ?_, ?_, ?_, ?_, ?_, ?_, ?_⟩
  · rw [show 512 = 2 ^ 9 from rfl, Nat.testBit_mod_two_pow, testBit_npmode]
    by_cases hi : i < 9
    · have : ∀ j, 18 ≤ j → decide (j = i) = false := fun j hj => by simp; omega
      simp [hi, this]
    · simp [hi, high i (by omega)]
  -- the other seven, at bits ≥ 18: `perm` has none there (`high`)
  all_goals simp [testBit_npmode, high]

/-- the qid type: the directory bit exactly for directories, the symlink bit exactly for symbolic
    links, nothing else -/
theorem qid_type_reports_the_file (m : FMode) :
    (qidType m).testBit 7 = m.dir ∧ (qidType m).testBit 1 = m.symlink ∧
    qidType m = (if m.dir then 0x80 else 0) + (if m.symlink then 0x02 else 0) := by
  obtain ⟨perm, dir, sl, so, pi, de, su, sg⟩ := m
  cases dir <;> cases sl <;> simp [qidType, flag, QTDIR, QTSYMLINK] <;> decide

example : npmode { perm := 0o755, dir := true, symlink := false, socket := false, pipe := false, device := false, setuid := false, setgid := false } false = 0x800001ed := by decide

end filemeta

end G9.C16
