/-
  C18 — Ufs confines clients to the exported root (model: G9.UfsLogic clean / inRoot / walkStep / createPath:
  filepath.Clean on component lists, and the four places where client strings reach host paths).  Premise: the
  tree holds no symlink leaving it, so the operating system's resolution of a cleaned path (no "." / ".." / "")
  stays below its lexical prefix.
-/
import G9.UfsLogic
namespace G9.C18
open G9.Ufs

def plain (n : Name) : Prop := n ≠ "" ∧ n ≠ "." ∧ n ≠ ".."

theorem cleanAcc_plain (acc p : List Name) (h : ∀ n ∈ acc, plain n) : ∀ n ∈ cleanAcc acc p, plain n := by
  -- end of the path; "" or "." skipped; ".." pops; any other name pushed
  fun_induction cleanAcc acc p with
  | case1 acc => simpa using h
  | case2 acc n ns hn ih => exact ih h
  | case3 acc ns _ ih => exact ih fun n hn => h n (List.mem_of_mem_tail hn)
  | case4 acc n ns h1 h2 ih =>
    exact ih (List.forall_mem_cons.2 ⟨⟨fun e => h1 (Or.inl e), fun e => h1 (Or.inr e), h2⟩, h⟩)

/-- a cleaned path has no ".", ".." or empty component: nothing in it can climb -/
theorem clean_no_dotdot (p : List Name) : ∀ n ∈ clean p, plain n :=
  cleanAcc_plain [] p (fun _ h => by cases h)

theorem cleanAcc_append (acc p q : List Name) :
    cleanAcc acc (p ++ q) = cleanAcc (cleanAcc acc p).reverse q := by
  fun_induction cleanAcc acc p with
  | case1 acc => simp
  | case2 acc n ns hn ih => rw [List.cons_append, cleanAcc, if_pos hn, ih]
  | case3 acc ns h1 ih => rw [List.cons_append, cleanAcc, if_neg h1, if_pos rfl, ih]
  | case4 acc n ns h1 h2 ih => rw [List.cons_append, cleanAcc, if_neg h1, if_neg h2, ih]

theorem cleanAcc_of_plain (acc p : List Name) (h : ∀ n ∈ p, plain n) : cleanAcc acc p = acc.reverse ++ p := by
  fun_induction cleanAcc acc p with
  | case1 acc => simp
  | case2 acc n ns hn ih => exact absurd hn fun e => e.elim (h n (by simp)).1 (h n (by simp)).2.1
  | case3 acc ns _ ih => exact absurd rfl (h ".." (by simp)).2.2
  | case4 acc n ns h1 h2 ih => rw [ih fun m hm => h m (by simp [hm])]; simp

theorem clean_of_plain (p : List Name) (h : ∀ n ∈ p, plain n) : clean p = p :=
  cleanAcc_of_plain [] p h

theorem clean_idem (p : List Name) : clean (clean p) = clean p :=
  clean_of_plain _ (clean_no_dotdot p)

theorem clean_snoc (path : List Name) (name : Name) (hn : name ≠ "..") :
    clean (path ++ [name]) = clean path ++ (if name = "" ∨ name = "." then [] else [name]) := by
  unfold clean
  rw [cleanAcc_append]
  simp only [cleanAcc, if_neg hn]
  split <;> simp

/-- what `Walk` and `Create` both rest on -/
theorem inRoot_snoc (root path : List Name) (name : Name) (hin : inRoot root path = true)
    (hn : name ≠ "..") : inRoot root (path ++ [name]) = true := by
  unfold inRoot at hin ⊢
  rw [List.isPrefixOf_iff_prefix] at hin ⊢
  rw [clean_snoc path name hn]
  exact hin.trans (List.prefix_append _ _)

/-- Every host path a walk element can produce from a confined path is confined: ".."
    moves to the parent only if that is still inside the root (otherwise stays), names
    containing '/' designate nothing, ordinary names extend the path. -/
theorem walk_confined (root path : List Name) (name : Name) (p' : List Name)
    (hin : inRoot root path = true) (hs : walkStep root path name = some p') : inRoot root p' = true := by
  simp only [walkStep] at hs
  split at hs
  · split at hs
    · rename_i h2; cases hs; exact h2
    · cases hs; exact hin
  · split at hs
    · cases hs
    · rename_i hdd _
      cases hs
      exact inRoot_snoc root path name hin hdd

/-- hence, by induction over any sequence of walk elements, every path a fid can reach by
    walking from a confined path is confined -/
theorem walks_confined (root : List Name) : ∀ (names : List Name) (path p' : List Name),
    inRoot root path = true →
    names.foldlM (fun p n => walkStep root p n) path = some p' → inRoot root p' = true := by
  intro names
  induction names with
  | nil => intro path p' hin h; simp at h; cases h; exact hin
  | cons n ns ih =>
    intro path p' hin h
    rw [List.foldlM_cons] at h
    obtain ⟨q, hs, h⟩ := Option.bind_eq_some_iff.1 h
    exact ih q p' (walk_confined root path n q hin hs) h

/-- ".." at the root stays at the root -/
theorem dotdot_at_root_stays (root : List Name) :
    ∃ p, walkStep root root ".." = some p ∧ clean p = clean root := by
  simp only [walkStep, if_true]
  by_cases h : inRoot root (clean root).dropLast = true
  · refine ⟨_, by rw [if_pos h], ?_⟩
    -- the parent of the root is inside the root only when the root is "/" itself
    unfold inRoot at h
    have hcl := clean_of_plain (clean root).dropLast fun n hn =>
      clean_no_dotdot root n ((List.dropLast_sublist _).subset hn)
    rw [List.isPrefixOf_iff_prefix, hcl] at h
    have hlen := h.length_le
    rw [List.length_dropLast] at hlen
    have hnil : clean root = [] := List.eq_nil_of_length_eq_zero (by omega)
    rw [hcl, hnil]; rfl
  · exact ⟨root, by rw [if_neg h], rfl⟩

/-- a create name that would leave the directory ('.', '..', anything with '/') is refused;
    an accepted one yields a confined path -/
theorem create_confined (root path : List Name) (name : Name) (p' : List Name)
    (hin : inRoot root path = true) (hs : createPath path name = some p') : inRoot root p' = true := by
  unfold createPath at hs
  split at hs
  · cases hs
  · rename_i h
    cases hs
    exact inRoot_snoc root path name hin fun e => h (Or.inr (Or.inl e))

/-- attach names and rename targets are accepted only after the `inRoot` test on the joined
    path (the model of that guard is the test itself); the cleaned, accepted path has the
    cleaned root as a prefix and contains nothing that can climb -/
theorem accepted_is_below_root (root p : List Name) (h : inRoot root p = true) :
    (clean root) <+: (clean p) ∧ ∀ n ∈ clean p, plain n := by
  unfold inRoot at h
  exact ⟨List.isPrefixOf_iff_prefix.mp h, clean_no_dotdot p⟩

example : clean ["export", "..", "..", "etc", ".", "", "passwd"] = ["etc", "passwd"] := by decide
example : inRoot ["srv", "export"] ["srv", "export", "..", "secret"] = false := by decide
example : walkStep ["srv", "export"] ["srv", "export", "d"] ".." = some ["srv", "export"] := by decide
example : walkStep ["srv", "export"] ["srv", "export"] ".." = some ["srv", "export"] := by decide
example : walkStep ["srv", "export"] ["srv", "export"] "../x" = none := by simp [walkStep]

end G9.C18
