/-
  C01 — Wire-format fidelity of the message codec in both dialects: all 27 message shapes, every field
  value, every string/array length the wire can carry.
-/
import G9Proofs.Lemmas.WireMsg
import G9Proofs.Lemmas.WireRread
namespace G9.C01

/-- The packet a constructor builds is byte-for-byte the protocol's layout (tag NOTAG),
    for every message and every buffer it fits in. -/
theorem pack_eq_spec (dotu : Bool) (m : Msg) (buf : Bytes)
    (hfit : (Spec.encode dotu NOTAG m).length ≤ buf.length) :
    Go.pack dotu m buf = .ok (Spec.encode dotu NOTAG m) := by
  have hlen := encode_length dotu NOTAG m
  have hw : p32 (UInt32.ofNat ((Spec.body dotu m).length + 7)) ++ p8 m.code ++ p16 Generated.NOTAG ++
      Spec.body dotu m = Spec.encode dotu NOTAG m := by rw [Nat.add_comm]; rfl
  unfold Go.pack
  rw [packParts_eq]
  dsimp only
  rw [hw, if_neg (by omega), if_neg (by omega), List.take_left' (by omega)]

/-- …and a buffer one byte too small yields "buffer too small" and no packet. -/
theorem pack_small_buffer (dotu : Bool) (m : Msg) (buf : Bytes)
    (hsmall : buf.length < (Spec.encode dotu NOTAG m).length) :
    Go.pack dotu m buf = .err .packSmall := by
  have hlen := encode_length dotu NOTAG m
  unfold Go.pack
  rw [packParts_eq]
  dsimp only
  rw [if_pos (by omega)]

/-- The layout: size[4] is the little-endian length of the whole packet, byte 4 the type
    code, bytes 5–6 the tag. -/
theorem spec_size_prefix (dotu : Bool) (tag : UInt16) (m : Msg)
    (h : Spec.Rep dotu m) :
    ∃ b, Spec.encode dotu tag m = p32 (UInt32.ofNat (Spec.encode dotu tag m).length) ++ [m.code] ++ p16 tag ++ b ∧
      (UInt32.ofNat (Spec.encode dotu tag m).length).toNat = (Spec.encode dotu tag m).length := by
  refine ⟨Spec.body dotu m, ?_, ?_⟩
  · rw [encode_length]; simp [Spec.encode, p8]
  · rw [encode_length]; exact u32_toNat_of_lt _ h.1.1

/-- Decoding the protocol's bytes in the same dialect yields the same field values (with
    Go's defaults for fields the dialect does not carry), the tag, and consumes exactly
    the packet — whatever follows it in the buffer. -/
theorem unpack_encode (dotu : Bool) (tag : UInt16) (m : Msg) (rest : Bytes)
    (h : Spec.Rep dotu m) :
    Go.unpack dotu (Spec.encode dotu tag m ++ rest) =
      .ok (tag, Go.norm dotu m, (Spec.encode dotu tag m).length) :=
  unpack_encode_repW dotu tag m rest h.w

/-- Constructor then decoder: the composition the statement talks about. -/
theorem unpack_pack (dotu : Bool) (m : Msg) (buf : Bytes) (h : Spec.Rep dotu m)
    (hfit : (Spec.encode dotu NOTAG m).length ≤ buf.length) :
    (Go.pack dotu m buf >>= fun pkt => Go.unpack dotu pkt) =
      .ok (NOTAG, Go.norm dotu m, (Spec.encode dotu NOTAG m).length) := by
  rw [pack_eq_spec dotu m buf hfit]
  have := unpack_encode dotu NOTAG m [] h
  simpa using this

/-- Stat records on their own: `PackDir` is the protocol's record and `UnpackDir` inverts
    it, reporting the amount consumed and returning what follows. -/
theorem stat_roundtrip (dotu : Bool) (d : Stat) (rest : Bytes) (h : Spec.statStrOk dotu d) :
    Go.packDir dotu d = Spec.stat dotu d ∧
    Go.unpackDir dotu (Go.packDir dotu d ++ rest) =
      .ok (Go.normStat dotu d, rest, (Go.packDir dotu d).length) := by
  refine ⟨packDir_eq dotu d, ?_⟩
  have hl := stat_length_ge dotu d
  rw [packDir_eq]
  unfold Go.unpackDir
  rw [if_neg (by rw [List.length_append]; omega)]
  simp only [gstat_stat dotu d rest h, Res.ok_bind, Res.pure_eq, List.length_append]
  -- what remains is the count of bytes consumed
  congr 3
  omega

/-- A tag set afterwards appears at bytes 5–6 and nothing else changes. -/
theorem setTag_spec (dotu : Bool) (t0 t1 : UInt16) (m : Msg) :
    Go.setTag (Spec.encode dotu t0 m) t1 = .ok (Spec.encode dotu t1 m) := by
  have hlen := encode_length dotu t0 m
  unfold Go.setTag
  have h7 : ¬ (Spec.encode dotu t0 m).length < 7 := by omega
  rw [if_neg h7]
  simp [Spec.encode, p32, p8, p16]

/-- The two-step Rread: `InitRread c`, data copied into the window, `SetRreadCount n`
    with `n ≤ c` gives exactly the protocol's Rread of the first `n` bytes. -/
theorem rread_two_step (dotu : Bool) (c n : UInt32) (buf fill : Bytes)
    (hfit : 11 + c.toNat ≤ buf.length) (hrep : 11 + c.toNat < 4294967296)
    (hn : n.toNat ≤ c.toNat) (hfill : fill.length = c.toNat) :
    Go.initRread c buf = .ok (Go.rreadBuf c buf, 11 + c.toNat) ∧
    Go.setRreadCount (Go.fillData (Go.rreadBuf c buf) c.toNat fill) n =
      .ok (Spec.encode dotu NOTAG (.rread (fill.take n.toNat))) := by
  refine ⟨by unfold Go.initRread; rw [if_neg (by omega)], ?_⟩
  rw [fillData_rreadBuf c buf fill hfill]
  exact rread_encode dotu c n fill _ NOTAG hrep hn hfill

/-- …and a tag set between the two steps stays: `InitRread c`, the data, `SetTag t`,
    `SetRreadCount n` gives the protocol's Rread of the first `n` bytes under tag `t` —
    `SetRreadCount` touches size, count and the end of the packet, nothing else. -/
theorem rread_two_step_tagged (dotu : Bool) (c n : UInt32) (buf fill : Bytes) (t : UInt16)
    (hfit : 11 + c.toNat ≤ buf.length) (hrep : 11 + c.toNat < 4294967296)
    (hn : n.toNat ≤ c.toNat) (hfill : fill.length = c.toNat) :
    Go.setRreadCount (Go.tagBuf (Go.fillData (Go.rreadBuf c buf) c.toNat fill) t) n =
      .ok (Spec.encode dotu t (.rread (fill.take n.toNat))) := by
  -- `hfit` plays no part: `fillData` of `rreadBuf` does not depend on the buffer's length
  rw [fillData_rreadBuf c buf fill hfill, tagBuf_parts _ _ _ t _ _ rfl]
  exact rread_encode dotu c n fill _ t hrep hn hfill

/-! ### non-vacuity: concrete, non-trivial messages satisfy `Rep` -/

example : Spec.Rep false (.twalk 1 2 [[], [0x61], List.replicate 65535 0xff]) := by
  -- about a variable `l`: on the closed list the kernel would run `List.length` through all of it
  have key (l : Bytes) (hl : l.length = 65535) : Spec.Rep false (.twalk 1 2 [[], [0x61], l]) := by
    refine ⟨⟨?_, ?_, ?_⟩, trivial⟩
    · simp only [Spec.body, Spec.strs, Spec.str, List.length_append, p32_length, p16_length, hl,
        List.length_cons, List.length_nil]
      omega
    · simp only [List.length_cons, List.length_nil]; omega
    · intro n hn
      simp only [List.mem_cons, List.not_mem_nil, or_false] at hn
      rcases hn with rfl | rfl | rfl <;>
        simp only [Spec.strOk, hl, List.length_cons, List.length_nil] <;> omega
  exact key _ List.length_replicate

example : Spec.Rep true (.tread 0xFFFFFFFF 0xFFFFFFFFFFFFFFFF 0xFFFFFFFF) := by
  simp [Spec.Rep, Spec.RepW, Spec.body]

def exStat : Stat :=
  { typ := 1, dev := 2, qid := { typ := 0x80, vers := 3, path := 4 }, mode := 0x800001ed,
    atime := 5, mtime := 6, length := 7, name := [0x61], uid := [0x62], gid := [0x63],
    muid := [0x64], ext := [0x65], uidnum := 8, gidnum := 9, muidnum := 10 }

example : Spec.Rep true (.rstat exStat) := by
  simp [exStat, Spec.Rep, Spec.RepW, Spec.statStrOk, Spec.body, Spec.stat, Spec.statBody, Spec.str, Spec.qid, Spec.strOk]

end G9.C01
