/-
  C20 — The message logger keeps the most recent entries in order (model: G9.Logger, mirror of log.go: the
  ring, the queue in front of it, the concurrent `Filter` callers).
-/
import G9Proofs.Lemmas.Logger
namespace G9.C20
open G9.Logger

/-- the ring after logging `hist` (oldest first) into a fresh logger of capacity `n` -/
def logged (n : Nat) (hist : List Entry) : Ring := hist.foldl Ring.log (Ring.new n)

theorem logged_inv (n : Nat) (hn : 1 ≤ n) (hist : List Entry) : RInv n hist (logged n hist) := by
  suffices ∀ (r : Ring) (pre : List Entry), RInv n pre r → RInv n (pre ++ hist) (hist.foldl Ring.log r) from
    this _ [] (RInv_new n hn)
  induction hist with
  | nil => intro r pre h; rwa [List.append_nil]
  | cons e hist ih =>
    intro r pre h
    rw [List.append_cons]
    exact ih _ _ (RInv_log n hn pre r e h)

/-- For every capacity `n ≥ 1` and every history, of any length, the ring holds exactly
    the `n` most recently logged entries, oldest first. -/
theorem ring_refines_lastN (n : Nat) (hn : 1 ≤ n) (hist : List Entry) :
    (logged n hist).contents = lastN n hist :=
  RInv_contents n hist _ (logged_inv n hn hist)

/-- `Filter` terminates (the fuel of the mirrored loop is never exhausted) and returns
    exactly the matching entries among the last `n` logged, in logged order. -/
theorem filter_spec (n : Nat) (hn : 1 ≤ n) (hist : List Entry) (fo : Option Nat) (ft : Nat) :
    (logged n hist).filter fo ft = some ((lastN n hist).filter (sel fo ft)) :=
  RInv_filter n hist _ (logged_inv n hn hist) fo ft

/-- Hence: only logged entries, in the order logged, no entry twice unless logged twice,
    nothing matching skipped inside the window, never more than `n`. -/
theorem filter_sublist (n : Nat) (hist : List Entry) (fo : Option Nat) (ft : Nat) :
    List.Sublist ((lastN n hist).filter (sel fo ft)) hist ∧
    ((lastN n hist).filter (sel fo ft)).length ≤ n ∧
    ∀ e ∈ (lastN n hist).filter (sel fo ft), sel fo ft e = true := by
  refine ⟨List.filter_sublist.trans (List.drop_sublist _ _), ?_, fun e he => (List.mem_filter.1 he).2⟩
  have := List.length_filter_le (sel fo ft) (lastN n hist)
  rw [lastN_length] at this; omega

/-- nil owner and type 0 match everything -/
theorem filter_all (e : Entry) : sel none 0 e = true := by simp [sel]

/-- the invariant holds in every reachable state: any interleaving of producers and the
    logger goroutine, any number of entries -/
theorem sinv_run (n : Nat) (hn : 1 ≤ n) (evs : List Ev) (s s' : Sys) (h : SInv n s)
    (hr : s.run evs = some s') : SInv n s' :=
  Sys.isRun.inv (fun s _ ev h hs => by split at hs <;> cases hs; exact sinv_step n hn s ev h ‹_›) evs s s' h hr

/-- `Filter` at any moment sees the entries stored so far — a prefix of what was handed to
    `Log`, short by at most the 16 queued entries — and returns the matching ones among the
    last `n` of that prefix. -/
theorem filter_sees_prefix (n : Nat) (hn : 1 ≤ n) (evs : List Ev) (s : Sys)
    (hr : (Sys.init n).run evs = some s) (fo : Option Nat) (ft : Nat) :
    s.ring.filter fo ft = some ((lastN n s.processed).filter (sel fo ft)) ∧
    s.processed <+: s.enqueued ∧ s.enqueued.length ≤ s.processed.length + qcap := by
  have h := sinv_run n hn evs _ s (sinv_init n hn) hr
  refine ⟨RInv_filter n _ _ h.ring fo ft, ⟨s.queue, h.split⟩, ?_⟩
  rw [← h.split, List.length_append]
  exact Nat.add_le_add_left h.cap _

/-- once logging has stopped and the queue has drained, `Filter` is exactly the matching
    entries among the `n` most recently logged -/
theorem filter_converges (n : Nat) (hn : 1 ≤ n) (evs : List Ev) (s : Sys)
    (hr : (Sys.init n).run evs = some s) (hq : s.queue = []) (fo : Option Nat) (ft : Nat) :
    s.ring.filter fo ft = some ((lastN n s.enqueued).filter (sel fo ft)) := by
  rw [← (sinv_run n hn evs _ s (sinv_init n hn) hr).split, hq, List.append_nil]
  exact (filter_sees_prefix n hn evs s hr fo ft).1

/-- the queue drains: `dequeue` is enabled while it is non-empty and each one shortens it -/
theorem queue_drains (s : Sys) (h : s.queue ≠ []) :
    s.enabled .dequeue = true ∧ (s.step .dequeue).queue.length + 1 = s.queue.length := by
  cases hq : s.queue with
  | nil => exact absurd hq h
  | cons e q => simp [Sys.enabled, Sys.step, hq]

/-- no deadlock: in every state either `Log` can hand over its entry or the logger
    goroutine can take one (`Log` is blocked only while the queue is full, and then
    `dequeue` is enabled); `Filter` is a rendez-vous with the same goroutine. -/
theorem logger_no_deadlock (s : Sys) :
    (∀ e, s.enabled (.enqueue e) = true) ∨ s.enabled .dequeue = true := by
  by_cases h : s.queue.length < qcap
  · left; intro e; simp [Sys.enabled, h]
  · right
    cases hq : s.queue with
    | nil => simp [hq, qcap] at h
    | cons e q => simp [Sys.enabled, hq]

theorem finv_run (n : Nat) (hn : 1 ≤ n) (evs : List FEv) (s s' : FSys) (h : FInv n s)
    (hr : s.run evs = some s') : FInv n s' :=
  FSys.isRun.inv (finv_step n hn) evs s s' h hr

/-- Any number of goroutines call `Filter` while any number of others call `Log`, interleaved
    in any way: every answer a caller receives is the answer to its own question — the entries
    matching *its* owner and type among the last `n` of a prefix of what was handed to `Log` —
    and the answers are computed one after the other: a later answer never sees less than an
    earlier one. -/
theorem concurrent_filters (n : Nat) (hn : 1 ≤ n) (evs : List FEv) (s : FSys)
    (hr : (FSys.init n).run evs = some s) :
    (∀ x ∈ s.delivered, x.ans = some ((lastN n x.seen).filter (sel x.ask.fo x.ask.ft)) ∧
        x.seen <+: s.sys.enqueued) ∧
    s.delivered.Pairwise (fun x y => x.seen <+: y.seen) := by
  have h := finv_run n hn evs _ s (finv_init n hn) hr
  refine ⟨fun x hx => ?_, (List.pairwise_append.1 h.mono).1⟩
  obtain ⟨h1, h2⟩ := h.answers x (.inl hx)
  exact ⟨h1, h2.trans ⟨s.sys.queue, h.sys.split⟩⟩

/-- the answer handed over is the one computed for the question taken last: no caller receives
    another caller's answer -/
theorem reply_goes_to_its_asker (s s' : FSys) (h : s.step .deliver = some s') :
    ∃ x, s.serving = some x ∧ s'.delivered = s.delivered ++ [x] ∧ s'.serving = none := by
  obtain ⟨x, hx, rfl⟩ := FSys.step_some h
  exact ⟨x, hx, rfl, rfl⟩

/-- no caller waits forever and no producer is shut out: a question is taken whenever the logger
    goroutine is idle, an answer computed is handed over (its caller is waiting for nothing else),
    and meanwhile `Log` only ever waits for a full queue -/
theorem filter_callers_never_stuck (s : FSys) :
    (s.serving = none → ∀ a, (s.step (.ask a)).isSome = true) ∧
    (s.serving ≠ none → (s.step .deliver).isSome = true) := by
  refine ⟨fun h a => by simp [FSys.step, h], fun h => ?_⟩
  obtain ⟨x, hs⟩ := Option.ne_none_iff_exists'.1 h
  simp [FSys.step, hs]

def ex (i : Nat) : Entry := { id := i, owner := some (i % 2), typ := 1 + i % 3 }

example : (logged 3 [ex 0, ex 1, ex 2, ex 3, ex 4]).contents = [ex 2, ex 3, ex 4] := by decide
example : (logged 3 [ex 0, ex 1, ex 2, ex 3, ex 4]).filter (some 0) 0 = some [ex 2, ex 4] := by decide
example : ((Sys.init 2).run [.enqueue (ex 0), .enqueue (ex 1), .dequeue, .enqueue (ex 2)]).isSome = true := by
  decide

example : (((FSys.init 2).run [.log (.enqueue (ex 0)), .log .dequeue, .ask ⟨7, some 0, 0⟩, .log (.enqueue (ex 1)),
    .deliver, .log .dequeue, .ask ⟨8, none, 0⟩, .deliver]).map (fun s => s.delivered.map (fun x => (x.ask.caller, x.ans)))) =
    some [(7, some [ex 0]), (8, some [ex 0, ex 1])] := by decide

end G9.C20
