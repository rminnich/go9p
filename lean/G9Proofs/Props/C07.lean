/-
  C07 — Tflush is always answered and truly cancels (model: G9.SrvLife).  A Tflush is itself a request (its
  worker goes through `fl0 → fl1 → fl2 → tail`): what C03 proves of requests holds of it too.
-/
import G9Proofs.Lemmas.LifeFlush
import G9Proofs.Lemmas.LifeProgress
namespace G9.C07
open G9.Life

/-- at most one Rflush per Tflush (and at most one reply to the flushed request), always -/
theorem rflush_at_most_once (cap : Nat) (es : List Ev) (s : LS) (h : (LS.init cap).run es = some s) (f : Nat) :
    (s.reqout ++ s.wire).count f ≤ 1 :=
  Nat.le_trans (Nat.le_add_left _ _) ((inv_run es _ s (inv_init cap) h).once f).1

/-- The cancel decision is atomic with the start of the work: `flush.mark` on a target that has
    not passed `process.check` (neither work nor saved set, worker still queued or just started)
    marks it flushed and — ghost — as never-to-run. -/
theorem cancel_before_start_marks (s s' : LS) (f t : Nat) (hf : f < s.n) (hw : (s.req f).wpc = .fl1 (some t))
    (hne : f ≠ t) (hwk : (s.req t).wk = false) (hsv : (s.req t).sv = false)
    (hq : (s.req t).wpc = .queued ∨ (s.req t).wpc = .start) (hs : s.step (.flushMark f) = some s') :
    (s'.req t).fl = true ∧ (s'.req t).noRun = true ∧ (s'.req f).wpc = .fl2 t true := by
  simp only [LS.step, hf, if_true, hw, hwk, hsv] at hs
  cases hs
  have hne' : t ≠ f := fun h => hne h.symm
  refine ⟨?_, ?_, ?_⟩
  · show (upd _ f _ t).fl = true
    rw [upd_other _ _ _ _ hne']; simp
  · show (upd _ f _ t).noRun = true
    rw [upd_other _ _ _ _ hne']
    rcases hq with hq | hq <;> simp [hq]
  · simp

/-- A request cancelled before it started is never handed to the implementation afterwards:
    in no continuation of any schedule does it appear (again) in the implementation's log, and
    its `dispatch` is never enabled. -/
theorem cancelled_never_runs (cap : Nat) (es es' : List Ev) (s s' : LS) (h : (LS.init cap).run es = some s)
    (r : Nat) (hr : r < s.n) (hn : (s.req r).noRun = true) (h' : s.run es' = some s') :
    s'.implLog.count r = s.implLog.count r ∧ s'.step (.dispatch r) = none := by
  let P : LS → Prop := fun s1 =>
    NR s1 ∧ r < s1.n ∧ (s1.req r).noRun = true ∧ s1.implLog.count r = s.implLog.count r
  have hP : ∀ s1 s2 e, P s1 → Step s1 e s2 → P s2 := fun s1 s2 e ⟨a, b, c, d⟩ hs => by
    refine ⟨hs.nr a, Nat.lt_of_lt_of_le b hs.n_le, (hs.keeps (Nat.ne_of_lt b)).noRun c, ?_⟩
    -- cancelled before it started, `r` stays before the check; only a dispatch, past it, logs
    rcases hs.implLog with k | ⟨x, hw, k⟩
    · rw [k]; exact d
    · have hx : x ≠ r := fun hx => (a r c).2 (hx ▸ hw)
      rw [k, List.count_append, List.count_singleton, if_neg (by simpa using hx)]; exact d
  have key : P s' := run_inv hP es' s s' ⟨run_inv (fun _ _ _ a hs => hs.nr a) es _ s (nr_init cap) h, hr, hn, rfl⟩ h'
  -- the guard of `dispatch`
  exact ⟨key.2.2.2, if_neg fun hg => (key.1 r key.2.2.1).2 hg.2⟩

/-- A cancelled request gets no reply: the call of Respond that found the flush bit set at its
    test-and-set skips the writer's queue. -/
theorem cancelled_gets_no_reply (s : LS) (i : Nat) (it : Inst) (hit : s.insts[i]? = some it) (hpc : it.pc = .queue)
    (hfl : it.oldFl = true) :
    s.step (.queue i) = some { s with insts := setInst s.insts i { it with pc := .unlink } } :=
  (Step.queueDrop i it hit hpc (by rw [hfl]; rfl)).to_step

/-- Immediately, if the old tag is not outstanding: when the lookup finds no request with the
    old tag, the flush worker and the writer alone — no step of any other request — put the
    Rflush on the wire. -/
theorem rflush_immediate_if_absent (s : LS) (f ot : Nat) (hf : f < s.n) (hw : (s.req f).wpc = .fl0)
    (hot : (s.req f).oldtag = some ot) (hch : s.chain ot = []) (hrs : (s.req f).rs = false)
    (hfl : (s.req f).fl = false) (hc : s.closed = false) (hq : s.reqout = []) :
    ∃ s', s.run [.flushLookup f, .flushAct f, .mark s.insts.length, .post s.insts.length,
                 .queue s.insts.length, .send] = some s' ∧ s'.wire = s.wire ++ [f] := by
  let s1 : LS := { s with req := upd s.req f { s.req f with wpc := .fl1 none } }
  let s2 : LS := { s1 with req := upd s1.req f { s1.req f with wpc := .tail }, insts := s.insts ++ [{ rid := f }] }
  have h1 : Step s (.flushLookup f) s1 := .lookupNone f hf hw ot hot (by simp [lookupTarget, hch])
  have h2 : Step s1 (.flushAct f) s2 := .actNone f hf (congrArg Req.wpc (upd_same ..))
  obtain ⟨s', hr, hwire, _⟩ := respond_reaches_wire s2 s.insts.length { rid := f }
    (by show (s.insts ++ [({ rid := f } : Inst)])[s.insts.length]? = _; simp) rfl
    (by simpa only [s2, s1, upd_same] using hrs) (by simpa only [s2, s1, upd_same] using hfl) hc hq
  exact ⟨s', run_cons h1 (run_cons h2 hr), hwire⟩

/-! ### non-vacuity: request 0 (tag 5) queued behind nothing but not yet checked, flushed by request 1 -/
example : ((LS.init 4).run [.recv 5 none, .recv 9 (some 5), .check 1, .dispatch 1, .flushLookup 1, .flushMark 1,
    .flushAct 1, .check 0, .selfRespond 0, .mark 0, .post 0, .queue 0, .unlink 0, .next 0, .flushes 0,
    .mark 2, .post 2, .queue 2, .send, .procEnd 1]).map
    (fun s => (s.wire, s.implLog, (s.req 0).noRun, (s.req 0).rs)) = some ([1], [], true, true) := by decide

/-- **Reply before Rflush** (partial: schedules of an ordinary session, `LS.tame` — no Tflush aimed
    at a Tflush, no hand-over of waiting flushes to a successor under the same tag, `next` starts a
    queued request; flush of a flush and K-6 shapes are decided by the correspondence only).
    In every state reached by such a schedule, for a Tflush `f` whose lookup found request `t`:
    once the Rflush is queued (or written), a reply to `t` — if there is one at all — was queued
    before it; and if there is none, there never will be, in any continuation whatsoever. -/
theorem reply_before_rflush_partial (cap : Nat) (es : List Ev) (s : LS) (h : (LS.init cap).runT es = some s)
    (f t : Nat) (hl : (s.req f).looked = some t) (hf : f ∈ out s) :
    (t ∈ out s → Before (out s) t f) ∧
    (t ∉ out s → ∀ (es' : List Ev) (s' : LS), s.run es' = some s' → t ∉ out s') := by
  obtain ⟨_, hF⟩ := fi_runT es _ s ⟨inv_init cap, fi_init cap⟩ h
  exact ⟨hF.ord f t hl hf, fun hno es' s' hr =>
    out_run_nf es' s s' (hF.lkt f t hl).2.2 ((hF.outr f hf).2 t hl) hno hr⟩

/-- the lookup records its target exactly when the table holds another request under the old tag -/
theorem lookup_finds_newest (s s' : LS) (f ot t : Nat) (hf : f < s.n) (hw : (s.req f).wpc = .fl0)
    (hot : (s.req f).oldtag = some ot) (hhd : (s.chain ot).head? = some t) (hne : t ≠ f)
    (hs : s.step (.flushLookup f) = some s') :
    (s'.req f).looked = some t ∧ (s'.req f).wpc = .fl1 (some t) := by
  simp only [LS.step, hf, hw, and_self, if_true, hot, lookupTarget, hhd, if_neg hne] at hs
  cases hs
  constructor <;> simp

/-- A Tflush that names its own tag finds nothing to flush (what it could have flushed ran
    before it): it is treated as a Tflush of a tag that is not outstanding, and answered at once. -/
theorem self_flush_finds_nothing (s : LS) (f ot : Nat) (hf : f < s.n) (hw : (s.req f).wpc = .fl0)
    (hot : (s.req f).oldtag = some ot) (hhd : (s.chain ot).head? = some f) :
    s.step (.flushLookup f) = some { s with req := upd s.req f { s.req f with wpc := .fl1 none } } :=
  (Step.lookupNone f hf hw ot hot (by simp [lookupTarget, hhd])).to_step

/-! ### non-vacuity of the tame hypothesis: request 0 (tag 5) in the implementation, flushed by request 1 -/
example : ((LS.init 4).runT [.recv 5 none, .check 0, .dispatch 0, .recv 9 (some 5), .check 1, .dispatch 1,
    .flushLookup 1, .flushMark 1, .flushAct 1, .procEnd 1, .answer 0, .mark 0, .post 0, .queue 0, .send, .unlink 0,
    .next 0, .flushes 0, .mark 1, .post 1, .queue 1, .send, .flushes 0, .flushes 0]).map
    (fun s => (s.wire, (s.req 1).looked)) = some ([0, 1], some 0) := by decide

end G9.C07
