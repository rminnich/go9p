/-
  C03 — Exactly one correctly tagged reply per request under any concurrency (model: G9.SrvLife).  A schedule
  is any list of enabled events: every number of outstanding requests, completion order and interleaving.  A
  reply is identified with the request it answers, which fixes its tag; what it contains is M3's business
  (C04/C05/C12).
-/
import G9Proofs.Lemmas.LifeInv
import G9Proofs.Lemmas.LifeProgress
namespace G9.C03
open G9.Life

/-- At most one reply per request, in every reachable state and however often the
    implementation (or anybody else) calls Respond on it: the request occurs at most once in
    the writer's queue and the wire together. -/
theorem reply_at_most_once (cap : Nat) (es : List Ev) (s : LS) (h : (LS.init cap).run es = some s) (r : Nat) :
    (s.reqout ++ s.wire).count r ≤ 1 :=
  Nat.le_trans (Nat.le_add_left _ _) ((inv_run es _ s (inv_init cap) h).once r).1

/-- No reply without a request: whatever is queued or sent answers a request that was
    received, and that request is marked as responded. -/
theorem replies_only_to_requests (cap : Nat) (es : List Ev) (s : LS) (h : (LS.init cap).run es = some s) (r : Nat)
    (hr : r ∈ s.reqout ++ s.wire) : r < s.n ∧ (s.req r).rs = true :=
  have hi := inv_run es _ s (inv_init cap) h
  ⟨(List.mem_append.1 hr).elim (hi.ids.ro r) (hi.ids.wi r),
   (hi.once r).2 (Nat.le_trans (List.count_pos_iff.2 hr) (Nat.le_add_left _ _))⟩

/-- A second answer to an answered request is dropped at the test-and-set: that call of
    Respond ends there and touches neither the queue nor the wire nor the tag table. -/
theorem extra_answer_ignored (s s' : LS) (i : Nat) (it : Inst) (hit : s.insts[i]? = some it) (hpc : it.pc = .mark)
    (hrs : (s.req it.rid).rs = true) (hs : s.step (.mark i) = some s') :
    s'.reqout = s.reqout ∧ s'.wire = s.wire ∧ s'.chain = s.chain ∧ (s'.insts[i]?).map (·.pc) = some .done := by
  cases (Step.markLost i it hit hpc hrs).to_step.symm.trans hs
  exact ⟨rfl, rfl, rfl, congrArg (Option.map (·.pc)) (setInst_get hit _)⟩

/-- What has been written stays written: along any schedule the wire only grows at its end. -/
theorem wire_append_only (s s' : LS) (es : List Ev) (h : s.run es = some s') : ∃ l, s'.wire = s.wire ++ l :=
  run_inv (P := fun t => ∃ l, t.wire = s.wire ++ l)
    (fun _ _ _ ⟨l1, h1⟩ hst => have ⟨l2, h2⟩ := hst.wire; ⟨l1 ++ l2, by rw [h2, h1, List.append_assoc]⟩)
    es s s' ⟨[], (List.append_nil _).symm⟩ h

/-- At least one: when Respond is called on a request that has not been answered or
    cancelled, on a live connection whose writer is idle, then that call and the writer alone —
    no step of any other request — put exactly that reply on the wire. -/
theorem answered_reaches_wire (s : LS) (i : Nat) (it : Inst) (hit : s.insts[i]? = some it) (hpc : it.pc = .mark)
    (hrs : (s.req it.rid).rs = false) (hfl : (s.req it.rid).fl = false) (hc : s.closed = false)
    (hq : s.reqout = []) :
    ∃ s', s.run [.mark i, .post i, .queue i, .send] = some s' ∧ s'.wire = s.wire ++ [it.rid] :=
  let ⟨s', h1, h2, _⟩ := respond_reaches_wire s i it hit hpc hrs hfl hc hq
  ⟨s', h1, h2⟩

/-- The implementation may always answer a request it was handed (now or later, from any
    goroutine): the call of Respond is enabled in every state. -/
theorem answer_always_enabled (s : LS) (r : Nat) (hr : r < s.n) (hl : r ∈ s.implLog) :
    s.step (.answer r) = some { s with insts := s.insts ++ [{ rid := r }] } :=
  (Step.answer r hr hl).to_step

/-- A call of Respond never waits for another request (only, with a full queue, for the writer). -/
theorem respond_never_blocked (s : LS) (i : Nat) (it : Inst) (hit : s.insts[i]? = some it) (e : Ev)
    (he : evOf i it.pc = some e) :
    (s.step e).isSome = true ∨
    (it.pc = .queue ∧ s.closed = false ∧ s.cap < s.reqout.length ∧ (s.step .send).isSome = true) :=
  respond_progress s i it hit e he

/-! ### non-vacuity: three requests, answered in the order 2,0,1, request 0 answered twice -/
example : ((LS.init 0).run [.recv 5 none, .recv 6 none, .recv 7 none, .check 0, .check 1, .check 2,
    .dispatch 0, .dispatch 1, .dispatch 2, .answer 2, .answer 0, .answer 0, .mark 0, .mark 1, .mark 2,
    .post 0, .queue 0, .send, .post 1, .queue 1, .send, .answer 1, .mark 3, .post 3, .queue 3, .send]).map
    (fun s => (s.wire, s.reqout)) = some ([2, 0, 1], []) := by decide

end G9.C03
