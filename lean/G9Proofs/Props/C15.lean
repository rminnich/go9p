/-
  C15 — Directory reads return whole entries, each exactly once (model: G9.UfsLogic `window`, mirror of the
  directory branch of Ufs.Read, with the client's loops `readAll` and `readdir0`).  The snapshot of entry
  ends is a parameter: any directory, any entry sizes.
-/
import G9Proofs.Lemmas.Window
namespace G9.C15
open G9.Ufs

/-- At an offset the protocol allows (0, or the end of an entry) the reply is a run of whole
    entries starting there, at most `cnt` bytes, as many entries as fit, and it is empty
    only at the end of the directory; otherwise the request is refused because the next
    entry alone is longer than `cnt`.  Never a truncated entry, never a trap. -/
theorem window_whole_records (ends : List Nat) (total off cnt : Nat) (h : Snap ends total)
    (hoff : off = 0 ∨ off ∈ ends) :
    (∃ c, window ends total off cnt = .ok c ∧ GoodWin ends total off cnt c) ∨
    (window ends total off cnt = .tooSmall ∧ SmallWin ends total off cnt) := by
  obtain ⟨k, hw, hkt, hkc, hkm, hka⟩ := window_cut ends total off cnt h hoff
  by_cases h0 : k = 0 ∧ off < total
  · rw [if_pos h0] at hw
    refine .inr ⟨hw, h0.2, fun e he hlt => ?_⟩
    have := hka e he
    omega
  · rw [if_neg h0] at hw
    refine .inl ⟨k, hw, hkt, hkc, hkm, fun e he hlt => ?_, fun hz => by omega⟩
    have := hka e he
    omega

/-- a count too small for the next entry yields the error, not an empty or cut reply -/
theorem window_too_small (ends : List Nat) (total off cnt : Nat) (h : Snap ends total)
    (hoff : off = 0 ∨ off ∈ ends) (hmore : off < total)
    (hbig : ∀ e ∈ ends, off < e → off + cnt < e) :
    window ends total off cnt = .tooSmall := by
  obtain ⟨k, hw, -, hkc, hkm, -⟩ := window_cut ends total off cnt h hoff
  have hk : k = 0 := hkm.elim id fun hm => by have := hbig _ hm; omega
  rw [hw, if_pos ⟨hk, hmore⟩]

/-- any other offset (inside an entry, past the end, ≥ 2^63 …) is refused; in no case is a
    slice expression out of range -/
theorem dirwindow_no_panic (ends : List Nat) (total off cnt : Nat) (h : Snap ends total) :
    window ends total off cnt ≠ .panic := by
  by_cases hoff : off = 0 ∨ off ∈ ends
  · obtain ⟨k, hw, -⟩ := window_cut ends total off cnt h hoff
    rw [hw]
    split <;> nofun
  · unfold window
    rw [if_pos ((offset_refused_iff h off).2 hoff)]
    nofun

/-- every entry fits the count the client reads with -/
def Fits (ends : List Nat) (cnt : Nat) : Prop :=
  ∀ o, (o = 0 ∨ o ∈ ends) → ∀ e ∈ ends, o < e → ∃ e' ∈ ends, o < e' ∧ e' ≤ o + cnt

/-- One round of a client whose count fits every entry: an empty reply at the end of the
    directory, otherwise a run of whole entries up to another entry end, with fewer entries
    beyond it than before. -/
theorem window_fits {ends : List Nat} {total cnt off : Nat} (h : Snap ends total) (hfit : Fits ends cnt)
    (hoff : off = 0 ∨ off ∈ ends) :
    window ends total off cnt = .ok 0 ∧ off = total ∨
    ∃ c, window ends total off cnt = .ok (c + 1) ∧ c + 1 ≤ cnt ∧ off + (c + 1) ∈ ends ∧
      (ends.filter (off + (c + 1) < ·)).length < (ends.filter (off < ·)).length := by
  obtain ⟨k, hw, hkt, hkc, hkm, hka⟩ := window_cut ends total off cnt h hoff
  -- never "too small": the last entry fits like every other
  have hnot : ¬ (k = 0 ∧ off < total) := by
    rintro ⟨rfl, hlt⟩
    obtain ⟨e', he', h1, h2⟩ := hfit off hoff total (h.total_mem (by omega)) hlt
    have := hka e' he'
    omega
  rw [if_neg hnot] at hw
  cases k with
  | zero => exact .inl ⟨hw, by omega⟩
  | succ c =>
    have hmem := hkm.resolve_left (Nat.succ_ne_zero c)
    have hrec : off + (c + 1) ∈ recordsIn ends off (c + 1) := List.mem_filter.2 ⟨hmem, by simp⟩
    have hlen := congrArg List.length (records_then_rest ends h.sorted off (c + 1))
    have := List.length_pos_of_mem hrec
    rw [List.length_append] at hlen
    exact .inr ⟨c, hw, hkc, hmem, by omega⟩

/-- Following the offset rule from any allowed offset with a count that fits every entry,
    the replies are whole entries that tile the rest of the directory exactly — every entry
    once, none twice — and the listing ends with an empty reply. -/
theorem readall_from (ends : List Nat) (total cnt : Nat) (h : Snap ends total) (hfit : Fits ends cnt) :
    ∀ (fuel off : Nat), (off = 0 ∨ off ∈ ends) → (ends.filter (off < ·)).length < fuel →
      ∃ cs, readAll ends total cnt fuel off = (cs, true) ∧ off + cs.sum = total ∧ ∀ c ∈ cs, 0 < c ∧ c ≤ cnt := by
  intro fuel
  induction fuel with
  | zero => intro off _ hlt; omega
  | succ fuel ih =>
    intro off hoff hlt
    rcases window_fits h hfit hoff with ⟨hc, h0⟩ | ⟨c, hc, hle, hmem, hfewer⟩
    · exact ⟨[], by simp [readAll, hc], by simpa using h0, by simp⟩
    · obtain ⟨cs, hcs, hsum, hall⟩ := ih (off + (c + 1)) (.inr hmem) (by omega)
      exact ⟨(c + 1) :: cs, by simp only [readAll, hc, hcs], by simp; omega,
        List.forall_mem_cons.2 ⟨by omega, hall⟩⟩

/-- from offset 0: the whole directory, each entry exactly once, then an empty reply;
    starting again at 0 lists it again (the statement does not depend on earlier reads) -/
theorem readall_each_once (ends : List Nat) (total cnt : Nat) (h : Snap ends total) (hfit : Fits ends cnt) :
    ∃ cs, readAll ends total cnt (ends.length + 1) 0 = (cs, true) ∧ cs.sum = total ∧ ∀ c ∈ cs, 0 < c ∧ c ≤ cnt := by
  obtain ⟨cs, h1, h2, h3⟩ := readall_from ends total cnt h hfit (ends.length + 1) 0 (Or.inl rfl)
    (by have := List.length_filter_le (fun x => decide (0 < x)) ends; omega)
  exact ⟨cs, h1, by simpa using h2, h3⟩

/-- `Readdir(0)` started at an offset the protocol allows returns, after what it already had,
    every entry beyond that offset — each once, in listing order — and leaves the file offset
    at the end of the directory. -/
theorem client_readdir_from (ends : List Nat) (total cnt : Nat) (h : Snap ends total) (hfit : Fits ends cnt) :
    ∀ (fuel off : Nat) (acc : List Nat), (off = 0 ∨ off ∈ ends) → (ends.filter (off < ·)).length < fuel →
      readdir0 ends total cnt fuel off off acc = some (acc ++ ends.filter (off < ·), total) := by
  intro fuel
  induction fuel with
  | zero => intro off _ _ hlt; omega
  | succ fuel ih =>
    intro off acc hoff hlt
    rcases window_fits h hfit hoff with ⟨hc, h0⟩ | ⟨c, hc, hle, hmem, hfewer⟩
    · rw [readdir0, hc, h0, h.none_beyond_total, List.append_nil]; rfl
    · -- the records are strictly increasing and `off + (c + 1)` is the greatest of them
      have hlast : (recordsIn ends off (c + 1)).getLastD off = off + (c + 1) := by
        unfold recordsIn
        have hin : off + (c + 1) ∈ ends.filter (fun e => off < e && e ≤ off + (c + 1)) :=
          List.mem_filter.2 ⟨hmem, by simp⟩
        obtain ⟨hl1, hl2⟩ :=
          sorted_getLastD (h.sorted.sublist List.filter_sublist) (List.ne_nil_of_mem hin) off
        have hle := (List.mem_filter.1 hl1).2
        have := hl2 _ hin
        simp only [Bool.and_eq_true, decide_eq_true_eq] at hle
        omega
      rw [readdir0, hc]
      simp only [hlast, ih _ _ (.inr hmem) (by omega), List.append_assoc, records_then_rest ends h.sorted]

/-- `Readdir(0)` on a freshly opened directory returns the complete listing — every entry
    exactly once, in order, for any directory size — and a second call returns nothing more. -/
theorem client_readdir_complete (ends : List Nat) (total cnt : Nat) (h : Snap ends total) (hfit : Fits ends cnt) :
    readdir0 ends total cnt (ends.length + 1) 0 0 [] = some (ends, total) ∧ ends.Nodup ∧
    ((total = 0 ∨ total ∈ ends) → readdir0 ends total cnt (ends.length + 1) total total [] = some ([], total)) := by
  have hall : ends.filter (0 < ·) = ends := List.filter_eq_self.2 (fun e he => by simpa using h.pos e he)
  refine ⟨?_, h.sorted.imp Nat.ne_of_lt, fun ht => ?_⟩
  · have := client_readdir_from ends total cnt h hfit (ends.length + 1) 0 [] (Or.inl rfl) (by rw [hall]; omega)
    simpa [hall] using this
  · have hnone := h.none_beyond_total
    have := client_readdir_from ends total cnt h hfit (ends.length + 1) total [] ht (by rw [hnone]; simp)
    simpa [hnone] using this

example : Snap [60, 130, 200] 200 := ⟨by decide, by decide, rfl⟩
example : window [60, 130, 200] 200 60 100 = .ok 70 := by decide
example : window [60, 130, 200] 200 60 69 = .tooSmall := by decide
example : window [60, 130, 200] 200 70 100 = .badOffset := by decide
example : window [60, 130, 200] 200 100000 100 = .badOffset := by decide
example : readAll [60, 130, 200] 200 140 4 0 = ([130, 70], true) := by decide
example : readdir0 [60, 130, 200] 200 140 4 0 0 [] = some ([60, 130, 200], 200) := by decide
example : Fits [60, 130, 200] 140 := by simp [Fits]

end G9.C15
