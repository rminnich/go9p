/-
  C19 — No data races when concurrent requests operate on different fids.  (1) `lock_discipline`: every access
  to a guarded field that the translator found in /repo's source (G9.GeneratedLocks, regenerated on every run) is
  made under the guard the policy (G9.Locks) names, or is a listed exemption: a finite table, decided by the
  kernel.  (2) `guarded_accesses_are_ordered`: in the abstract model of executions (G9.LockSet), unbounded in
  threads, locks, locations and length, the discipline separates conflicting accesses by a release/acquire pair
  on the guard.  That the syntactic must-hold lock sets are the locks really held is the translator's soundness
  (trusted, see DESIGN).
-/
import G9Proofs.Lemmas.LockTable
import G9Proofs.Lemmas.HandOver
namespace G9.C19
open G9.Locks G9.LockSet

/-- every access in the current source meets the lock policy -/
theorem lock_discipline : Locks.violations = [] :=
  List.filter_eq_nil_iff.2 fun a ha => by
    simpa [ok_eq] using List.all_eq_true.1 (Bool.and_eq_true_iff.1 table_ok).1 a ha

/-- the policy is about fields that exist and are written somewhere -/
theorem policy_covered : Locks.policyCovered = true :=
  List.all_eq_true.2 fun p hp => by
    obtain ⟨f, hf, hpf⟩ := List.any_eq_true.1 (List.all_eq_true.1 (Bool.and_eq_true_iff.1 table_ok).2 p hp)
    obtain ⟨⟨_, field, _, write, _, _, _⟩, ha, hw⟩ := List.mem_filterMap.1 hf
    refine List.any_eq_true.2 ⟨_, ha, ?_⟩
    simp only [written] at hw
    split at hw <;> simp_all [eqs_eq]

-- A stale exemption (`Locks.exemptUsed = false`, after a rename, say) is harmless for the property and no
-- proof obligation.

/-- Under mutex semantics and the discipline, two accesses to the same location by different
    threads are ordered: between them the first thread releases the location's guard and,
    later, the second thread acquires it. -/
theorem guarded_accesses_are_ordered (guard : Nat → Nat) (h0 hend : Holders) (pre mid post : List Ev)
    (t u x : Nat) (w1 w2 : Bool) (htu : t ≠ u)
    (hr : run guard h0 (pre ++ (⟨t, .acc x w1⟩ :: (mid ++ (⟨u, .acc x w2⟩ :: post)))) = some hend) :
    ∃ a b c, mid = a ++ (⟨t, .rel (guard x)⟩ :: (b ++ (⟨u, .acq (guard x)⟩ :: c))) := by
  obtain ⟨a, _, b, _, c, hmid, rfl, rfl⟩ := (isRun guard).handed_over
    (owner := (· (guard x)))
    (touch := fun t e => ∃ w, e = ⟨t, .acc x w⟩)
    (give := fun t e => e = ⟨t, .rel (guard x)⟩)
    (take := fun u e => e = ⟨u, .acq (guard x)⟩)
    (I := fun _ => True)
    (htouch := fun _ _ _ _ => step_acc)
    (hstep := fun _ _ _ _ hs => ⟨trivial, step_holder hs _⟩)
    trivial hr ⟨w1, rfl⟩ ⟨w2, rfl⟩ htu
  exact ⟨a, b, c, hmid⟩

/-- in particular an access outside the guard is not an execution of the model at all: the
    discipline is what `step` enforces -/
theorem unguarded_access_rejected (guard : Nat → Nat) (h : Holders) (t x : Nat) (w : Bool)
    (hn : h (guard x) ≠ some t) : step guard h ⟨t, .acc x w⟩ = none := by
  simp [step, hn]

/-- Under channel semantics and the ownership discipline (an object is accessed only by the
    goroutine that made it or last received it), two accesses to the same object by different
    goroutines are ordered: between them the first sends the object and, later, the second
    receives it — for any number of goroutines, channels, objects and any length of execution.
    This is the argument for the accesses the lock policy lists as exempt because the object is
    private to one goroutine at a time (requests on their way to the writer goroutines, reply
    buffers on their way back to the pool, log entries). -/
theorem handed_over_accesses_are_ordered (s0 send : OwnSet.St) (hwf : OwnSet.WF s0) (pre mid post : List OwnSet.Ev)
    (t u x : Nat) (w1 w2 : Bool) (htu : t ≠ u)
    (hr : OwnSet.run s0 (pre ++ (⟨t, .acc x w1⟩ :: (mid ++ (⟨u, .acc x w2⟩ :: post)))) = some send) :
    ∃ a b c ch1 ch2, mid = a ++ (⟨t, .send ch1 x⟩ :: (b ++ (⟨u, .recv ch2 x⟩ :: c))) := by
  obtain ⟨a, _, b, _, c, hmid, ⟨ch1, rfl⟩, ⟨ch2, rfl⟩⟩ := OwnSet.isRun.handed_over
    (owner := (·.owner x))
    (touch := fun t e => ∃ w, e = ⟨t, .acc x w⟩)
    (give := fun t e => ∃ c, e = ⟨t, .send c x⟩)
    (take := fun u e => ∃ c, e = ⟨u, .recv c x⟩)
    (I := OwnSet.WF)
    (htouch := fun _ _ _ _ => OwnSet.step_acc)
    (hstep := fun _ _ _ hwf hs => OwnSet.step_owner hwf hs x)
    hwf hr ⟨w1, rfl⟩ ⟨w2, rfl⟩ htu
  exact ⟨a, b, c, ch1, ch2, hmid⟩

/-- an access by anybody but the owner is not an execution of the model -/
theorem foreign_access_rejected (s : OwnSet.St) (t x : Nat) (w : Bool) (hn : s.owner x ≠ some t) :
    OwnSet.step s ⟨t, .acc x w⟩ = none := by
  simp [OwnSet.step, hn]

example : (OwnSet.run { owner := fun k => if k = 7 then some 1 else none }
    [⟨1, .acc 7 true⟩, ⟨1, .send 0 7⟩, ⟨2, .recv 0 7⟩, ⟨2, .acc 7 false⟩, ⟨2, .send 1 7⟩, ⟨1, .recv 1 7⟩, ⟨1, .acc 7 true⟩]).isSome = true := by
  decide

/-! ### non-vacuity: two threads hand a guarded location over -/
example : (run (fun _ => 0) (fun _ => none)
    [⟨1, .acq 0⟩, ⟨1, .acc 7 true⟩, ⟨1, .rel 0⟩, ⟨2, .acq 0⟩, ⟨2, .acc 7 false⟩, ⟨2, .rel 0⟩]).isSome = true := by decide

end G9.C19
