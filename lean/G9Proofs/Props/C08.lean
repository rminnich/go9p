/-
  C08 — Independent requests progress independently; shared tags run FIFO (model: G9.SrvLife).  "Never delays"
  is enabledness: the next step of a worker or of a call of Respond is enabled in *every* state, so no schedule
  can make it wait for other requests.  Wall-clock promptness is observed by the correspondence, not proved.
-/
import G9Proofs.Lemmas.LifeFifo
import G9Proofs.Lemmas.LifeProgress
namespace G9.C08
open G9.Life

/-- No head-of-line blocking among workers: a worker that is neither inside the
    implementation nor queued behind its own tag group can always take its next step. The
    hypothesis mentions no other request. -/
theorem no_head_of_line_worker (s : LS) (r : Nat) (hr : r < s.n) (e : Ev) (he : wevOf r (s.req r).wpc = some e)
    (hfl : (s.req r).wpc = .fl0 → (s.req r).oldtag ≠ none) : (s.step e).isSome = true :=
  worker_progress s r hr e he hfl

/-- No head-of-line blocking among replies: a call of Respond can always take its next step;
    with a full writer queue it waits for the writer only, and the writer can then move. -/
theorem no_head_of_line_reply (s : LS) (i : Nat) (it : Inst) (hit : s.insts[i]? = some it) (e : Ev)
    (he : evOf i it.pc = some e) :
    (s.step e).isSome = true ∨
    (it.pc = .queue ∧ s.closed = false ∧ s.cap < s.reqout.length ∧ (s.step .send).isSome = true) :=
  respond_progress s i it hit e he

/-- The writer never waits for a request: it moves whenever something is queued. -/
theorem writer_never_blocked (s : LS) (hq : s.reqout ≠ []) (hc : s.closed = false) : (s.step .send).isSome = true := by
  cases h : s.reqout with
  | nil => exact absurd h hq
  | cons r rest => exact (Step.send r rest h (by rw [hc]; nofun)).enabled

/-- A blocked request is invisible to the others: parking request `b` inside the
    implementation changes the enabledness of no event that is not its own. Stated for
    `dispatch`, the step that parks it. -/
theorem parking_disables_nothing (s s' : LS) (b : Nat) (hs : s.step (.dispatch b) = some s')
    (hnf : (s.req b).oldtag = none) (r : Nat) (hrb : r ≠ b) (e : Ev) (he : wevOf r (s.req r).wpc = some e)
    (hr : r < s.n)
    (hfl : (s.req r).wpc = .fl0 → (s.req r).oldtag ≠ none) : (s'.step e).isSome = true := by
  cases Step.of_step hs with
  | dispatchFl _ _ _ ot ho => rw [hnf] at ho; cases ho
  | dispatchOp =>
    refine worker_progress _ r ?_ e ?_ ?_
    · exact hr
    · show wevOf r (upd s.req b _ r).wpc = some e
      rw [upd_other _ _ _ _ hrb]; exact he
    · show (upd s.req b _ r).wpc = .fl0 → (upd s.req b _ r).oldtag ≠ none
      rw [upd_other _ _ _ _ hrb]; exact hfl

/-- Shared tag, one at a time: a request received while an older request with its tag is
    still in the table is queued, and a queued request can be neither checked nor handed to
    the implementation; only the `next` step of its predecessor's Respond starts it — and that
    step comes after the predecessor's reply was queued (`queue` precedes `unlink` precedes
    `next` in program order). -/
theorem shared_tag_queued (s s' : LS) (tag : Nat) (ot : Option Nat) (hne : s.chain tag ≠ [])
    (hs : s.step (.recv tag ot) = some s') :
    (s'.req s.n).wpc = .queued ∧ s'.step (.check s.n) = none ∧ s'.step (.dispatch s.n) = none := by
  cases Step.of_step hs with
  | recv =>
    suffices hw : _ from ⟨hw, queued_stuck hw⟩
    show (upd _ s.n _ s.n).wpc = .queued
    rw [upd_same]; exact if_neg fun he => hne (List.isEmpty_iff.mp he)

/-- the successor is started only after the predecessor's reply is in the writer's queue -/
theorem successor_started_after_reply_queued (s s' : LS) (i : Nat) (hs : s.step (.next i) = some s') :
    ∃ it, s.insts[i]? = some it ∧ it.pc = .next := by
  cases Step.of_step hs with
  | nextNone _ it hit hpc | nextStart _ it hit hpc => exact ⟨it, hit, hpc⟩

/-! ### non-vacuity: two requests under tag 5, one under tag 6 parked in the implementation -/
example : ((LS.init 1).run [.recv 6 none, .check 0, .dispatch 0, .recv 5 none, .recv 5 none, .check 1, .dispatch 1,
    .answer 1, .mark 0, .post 0, .queue 0, .unlink 0, .next 0, .check 2, .dispatch 2, .answer 2, .mark 1, .post 1,
    .send, .queue 1, .send]).map (fun s => (s.wire, s.implLog, (s.req 0).wpc)) = some ([1, 2], [0, 1, 2], .inImpl) := by
  decide

/-- **Shared tag: one at a time, in arrival order, answered in that order** (partial: sessions
    without Tflush — `LS.plain`; with flushes in the group the tag chain is cut, K-6, and the
    correspondence decides). For requests `a < b` (arrival order) under one tag, in every state
    a plain schedule reaches:
    * if `b` has been handed to the implementation, `a` was handed over before it, and `a` has
      already left the tag table — nothing of `a` can be queued any more (one at a time);
    * if `b`'s reply is queued or written, `a`'s reply, if there is one, was queued before it. -/
theorem shared_tag_fifo_partial (cap : Nat) (es : List Ev) (s : LS) (h : (LS.init cap).runP es = some s)
    (a b : Nat) (hab : a < b) (hb : b < s.n) (htag : (s.req a).tag = (s.req b).tag) :
    (b ∈ s.implLog → BeforeL s.implLog a b ∧ a ∈ s.unl ∧ NoFuture s a) ∧
    (b ∈ out s → (a ∈ out s → Before (out s) a b)) := by
  have hP := pi_reach h
  constructor
  · intro hbl
    have hau := hP.st b hb (hP.log b hbl).2 a hab htag
    exact ⟨hP.ex a b hab htag hbl, hau, gone_nf (hP.un a hau)⟩
  · exact hP.ord a b hab htag

/-- in such sessions the tag table of a tag is exactly the set of its received requests that have
    not yet left it through their own Respond, newest first -/
theorem tag_table_exact (cap : Nat) (es : List Ev) (s : LS) (h : (LS.init cap).runP es = some s) (T a : Nat) :
    (a ∈ s.chain T ↔ (a < s.n ∧ (s.req a).tag = T ∧ a ∉ s.unl)) ∧ (s.chain T).Pairwise (· > ·) :=
  ⟨(pi_reach h).mem T a, (pi_reach h).srt T⟩

/-! ### non-vacuity: three requests under tag 5 answered 0,1,2 although the implementation is ready in any order -/
example : ((LS.init 1).runP [.recv 5 none, .recv 5 none, .recv 5 none, .check 0, .dispatch 0, .answer 0, .mark 0, .post 0,
    .queue 0, .unlink 0, .next 0, .check 1, .dispatch 1, .send, .answer 1, .mark 1, .post 1, .queue 1, .unlink 1, .next 1,
    .check 2, .dispatch 2, .answer 2, .mark 2, .post 2, .send, .queue 2, .send]).map
    (fun s => (s.wire, s.implLog, s.unl)) = some ([0, 1, 2], [0, 1, 2], [1, 0]) := by decide

end G9.C08
