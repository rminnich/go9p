/-
  C17 — Mutations through Ufs equal the corresponding POSIX operations.  What the POSIX calls do is the
  operating system's business; proved is the translation: the open-flag table for all 256 modes (G9.UfsLogic
  omode2uflags), and which POSIX calls `Ufs.Create` and `Ufs.Wstat` make for a request, with which arguments
  and in which order (G9.UfsPlan).
-/
import G9.UfsLogic
import G9.UfsPlan
namespace G9.C17
open G9.Ufs

/-- the specification of the flag translation: access mode from the low two bits
    (OREAD and OEXEC read-only, OWRITE write-only, ORDWR read-write), O_TRUNC iff OTRUNC,
    nothing else (OCEXEC, ORCLOSE and the unused bits contribute nothing) -/
def flagSpec (mode : Nat) : Nat :=
  (match mode % 4 with
   | 1 => O_WRONLY
   | 2 => O_RDWR
   | _ => O_RDONLY) + (if mode / 16 % 2 = 1 then O_TRUNC else 0)

/-- the whole finite table, checked by the kernel -/
theorem omode_flags_table_nat : ∀ n, n < 256 → omode2uflags (UInt8.ofNat n) = flagSpec n := by
  decide +kernel

/-- …for every mode byte -/
theorem omode_flags_table (mode : UInt8) : omode2uflags mode = flagSpec mode.toNat := by
  have := omode_flags_table_nat mode.toNat mode.toNat_lt
  simpa using this


section plan
open G9.UfsPlan

/-- A Twstat whose stat record asks for nothing ("don't touch" in every field) makes no call at
    all, in either dialect. -/
theorem wstat_asks_nothing_does_nothing (dotu : Bool) (lu lg : Option Nat) :
    wstatPlan dotu WReq.nothing lu lg = .calls [] := by
  cases dotu <;> simp [wstatPlan, WReq.nothing, NO32, NO64, UfsPlan.NOUID]

/-- The calls of a Twstat are, in this order and each at most once: chmod, chown, rename,
    truncate, chtimes — and each is made exactly when the request names the corresponding field,
    with the value the request carries. -/
theorem wstat_only_what_was_asked (dotu : Bool) (w : WReq) (lu lg : Option Nat) (l : List POp)
    (h : wstatPlan dotu w lu lg = .calls l) :
    ∃ a b c d e, l = a ++ b ++ c ++ d ++ e ∧
      a = (if w.mode != NO32 then [.chmod (fileMode dotu w.mode)] else []) ∧
      (b = [] ∨ ∃ u g, b = [.chown u g] ∧ (u ≠ UfsPlan.NOUID ∨ g ≠ UfsPlan.NOUID) ∧ (dotu = true → u = w.uidnum ∧ g = w.gidnum)) ∧
      c = (if w.hasName then [.rename] else []) ∧
      d = (if w.length != NO64 then [.truncate w.length] else []) ∧
      e = (if w.mtime != NO32 || w.atime != NO32 then
             [.chtimes w.atime (if w.mtime == NO32 then none else some w.mtime)] else []) := by
  unfold wstatPlan at h
  simp only at h
  split at h
  · cases h
  · rename_i uid gid hids
    split at h
    · cases h
    · cases h
      refine ⟨_, _, _, _, _, rfl, rfl, ?_, rfl, rfl, rfl⟩
      by_cases hc : (uid != UfsPlan.NOUID || gid != UfsPlan.NOUID) = true
      · right
        refine ⟨uid, gid, by simp [hc], ?_, ?_⟩
        · simp only [Bool.or_eq_true, bne_iff_ne, ne_eq] at hc; exact hc
        · intro hd
          subst hd
          simp only [if_true, Option.some.injEq, Prod.mk.injEq] at hids
          exact ⟨hids.1.symm, hids.2.symm⟩
      · left; simp [hc]

/-- a rename whose destination is outside the exported root is refused, not attempted -/
theorem wstat_rename_confined (dotu : Bool) (w : WReq) (lu lg : Option Nat) (hn : w.hasName = true)
    (ho : w.destInRoot = false) : ∀ l, wstatPlan dotu w lu lg ≠ .calls l := by
  intro l h
  unfold wstatPlan at h
  simp only at h
  split at h
  · cases h
  · simp [hn, ho] at h

/-- The mode handed to chmod or to the creating open is the nine permission bits of the request;
    the Unix setuid/setgid bits are added only on a 9P2000.u connection, nothing else ever. -/
theorem mode_is_permission_bits (dotu : Bool) (perm : Nat) :
    fileMode false perm = perm &&& 0o777 ∧ fileMode dotu perm < 0o10000 ∧
    fileMode dotu perm % 0o1000 = perm % 0o1000 := by
  -- setuid and setgid lie above the nine permission bits and below bit 12
  have hi : ∀ (c : Bool) (v : Nat), v = S_ISUID ∨ v = S_ISGID →
      (if c then v else 0) < 2 ^ 12 ∧ (if c then v else 0) % 2 ^ 9 = 0 := by
    rintro (_ | _) v (rfl | rfl) <;> decide
  obtain ⟨u1, u2⟩ := hi (dotu && bit perm DMSETUID) _ (.inl rfl)
  obtain ⟨g1, g2⟩ := hi (dotu && bit perm DMSETGID) _ (.inr rfl)
  refine ⟨by simp [fileMode], ?_, ?_⟩
  · exact Nat.or_lt_two_pow (Nat.or_lt_two_pow (Nat.lt_of_le_of_lt Nat.and_le_right (by decide)) u1) g1
  · rw [fileMode, show 0o1000 = 2 ^ 9 from rfl, Nat.or_mod_two_pow, Nat.or_mod_two_pow, u2, g2,
      Nat.or_zero, Nat.or_zero, show 0o777 = 2 ^ 9 - 1 from rfl, Nat.and_two_pow_sub_one_eq_mod, Nat.mod_mod]

/-- a call that makes a new object in the tree -/
def makes : POp → Bool
  | .mkdir _ | .symlink | .link | .openCreate _ _ => true
  | _ => false

/-- Tcreate: what is made is what the permission word asks for — a directory (with the nine
    permission bits), a symbolic link, a hard link, or a regular file opened with the translated
    flags and the permission bits — and never more than one object; a follow-up open of the new
    object is the only other call. -/
theorem create_makes_what_was_asked (dotu : Bool) (perm omode : Nat) (inr num fid : Bool) (l : List POp)
    (h : createPlan dotu perm omode inr num fid = .calls l) :
    (l.filter makes).length ≤ 1 ∧
    (bit perm DMDIR = true → l = [.mkdir (perm &&& 0o777), .openPlain omode]) ∧
    (bit perm DMDIR = false → bit perm DMSYMLINK = true → l = [.symlink, .openPlain omode] ∧ inr = true) ∧
    (bit perm DMDIR = false → bit perm DMSYMLINK = false → bit perm DMLINK = true →
      l = [.link, .openPlain omode] ∧ num = true ∧ fid = true) ∧
    (bit perm DMDIR = false → bit perm DMSYMLINK = false → bit perm DMLINK = false →
      bit perm DMNAMEDPIPE = false → l = [.openCreate omode (fileMode dotu perm)]) := by
  unfold createPlan at h
  -- down the decision list: every row that makes calls fixes `l`
  by_cases h1 : bit perm DMDIR = true
  · rw [if_pos h1] at h; cases h; simp [h1, makes, List.filter]
  rw [if_neg h1] at h
  by_cases h2 : bit perm DMSYMLINK = true
  · rw [if_pos h2] at h
    cases inr
    · cases h
    · cases h; simp [h1, h2, makes, List.filter]
  rw [if_neg h2] at h
  by_cases h3 : bit perm DMLINK = true
  · rw [if_pos h3] at h
    cases num
    · cases h
    cases fid
    · cases h
    · cases h; simp [h1, h2, h3, makes, List.filter]
  rw [if_neg h3] at h
  by_cases h4 : bit perm DMNAMEDPIPE = true
  · rw [if_pos h4] at h; cases h; simp [h1, h2, h3, h4, makes, List.filter]
  rw [if_neg h4] at h
  by_cases h5 : bit perm DMDEVICE = true
  · rw [if_pos h5] at h; cases h
  · rw [if_neg h5] at h; cases h; simp [h1, h2, h3, h4, makes, List.filter]

/-- a symbolic link whose target would leave the exported tree, a hard link to something that is
    not a fid, a device file: refused by the file server without any call -/
theorem create_refusals_make_no_call (dotu : Bool) (perm omode : Nat) (inr num fid : Bool)
    (hd : bit perm DMDIR = false) :
    (bit perm DMSYMLINK = true → inr = false → createPlan dotu perm omode inr num fid = .refuse "eperm") ∧
    (bit perm DMSYMLINK = false → bit perm DMLINK = true → num = true → fid = false →
      createPlan dotu perm omode inr num fid = .refuse "unknownfid") := by
  unfold createPlan
  refine ⟨fun h1 h2 => by simp [hd, h1, h2], fun h1 h2 h3 h4 => by simp [hd, h1, h2, h3, h4]⟩

/-! non-vacuity: a chmod-and-truncate Twstat on a .u connection, a plain file create -/
example : wstatPlan true { WReq.nothing with mode := 0o640, length := 3 } none none =
    .calls [.chmod 0o640, .truncate 3] := by decide
example : createPlan false 0o644 1 true false false = .calls [.openCreate 1 0o644] := by decide

end plan

end G9.C17
