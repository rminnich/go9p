/-
  C10 — Client calls fail promptly, never hang, when the connection fails (models: G9.Clnt; G9.ClntIO for who
  waits for whom between callers, writer and receiver).  "Never hangs": in every reachable state after a
  failure each call in progress has an enabled step towards returning, and the fan-out terminates.
  Wall-clock bounds are observed by the correspondence, not proved.
-/
import G9Proofs.Lemmas.Clnt
import G9Proofs.Lemmas.ClntIO
namespace G9.C10
open G9.Clnt

/-- once the connection has failed every new call is refused in its critical section,
    never touches the writer, and gives its tag back (the accounting of C09 still holds) -/
theorem later_calls_refused (s s' : CS) (i : Nat) (he : s.err = true) (h : s.step (.enqueue i) = some s') :
    i ∈ s'.refused ∧ i ∉ s'.pend ∧ s'.pend = s.pend ∧ (C09.tags s').Perm (C09.tags s) := by
  obtain ⟨t, -, hnp, ⟨-, rfl⟩ | ⟨hf, -⟩⟩ := step_some h
  · exact ⟨List.mem_cons_self, by simpa using hnp, by simp, C09.step_tags _ _ _ h⟩
  · cases he.symm.trans hf

/-- a failure never hands a result to anybody: no call returns success unless a complete
    frame with its tag was delivered (`woken` grows with `some p` only by `deliver`) -/
theorem no_false_success (s s' : CS) (e : Ev) (h : s.step e = some s') (i p : Nat)
    (hw : (i, some p) ∈ s'.woken) (hn : (i, some p) ∉ s.woken) : ∃ t, e = .deliver t p ∧ tagOf s i = some t := by
  obtain hs | ⟨t, q, j, rfl, ht, hs⟩ | ⟨j, hs⟩ | ⟨j, w, -, -, hs⟩ := step_woken h <;> rw [hs] at hw
  · exact absurd hw hn
  · rcases List.mem_cons.1 hw with hw | hw
    · cases hw; exact ⟨t, rfl, ht⟩
    · exact absurd hw hn
  · rcases List.mem_cons.1 hw with hw | hw
    · cases hw
    · exact absurd hw hn
  · exact absurd (List.mem_of_mem_erase hw) hn

/-- A reply that was completely received is the caller's: whatever happens afterwards — the
    connection failing, the fan-out, other callers coming and going — it stays delivered until
    that caller itself takes it. -/
theorem delivered_reply_is_kept (s s' : CS) (e : Ev) (h : s.step e = some s') (i p : Nat)
    (hw : (i, some p) ∈ s.woken) (hne : ∀ j, e = .ret j → j ≠ i) : (i, some p) ∈ s'.woken := by
  obtain hs | ⟨_, _, _, -, -, hs⟩ | ⟨_, hs⟩ | ⟨j, w, rfl, hwj, hs⟩ := step_woken h <;> rw [hs]
  · exact hw
  · exact List.mem_cons_of_mem _ hw
  · exact List.mem_cons_of_mem _ hw
  · -- the entry `ret j` takes is `j`'s
    exact (List.mem_erase_of_ne fun e => hne j rfl (e ▸ hwj).symm).2 hw

/-- the error fan-out terminates and wakes every pending call exactly once, in list order:
    after `pend.length` iterations the list is empty and each former member has its error -/
theorem fanout_wakes_all : ∀ (k : Nat) (s : CS), s.closed = true → s.pend.length = k →
    ∃ s', s.run (List.replicate k .fanout) = some s' ∧ s'.pend = [] ∧
      s'.woken = (s.pend.map (fun i => (i, none))).reverse ++ s.woken ∧ s'.live = s.live
  | 0, s, _, hl => ⟨s, rfl, List.eq_nil_of_length_eq_zero hl, by simp [List.eq_nil_of_length_eq_zero hl], rfl⟩
  | k + 1, s, hc, hl => by
    obtain ⟨i, rest, hp⟩ := List.exists_cons_of_length_eq_add_one hl
    obtain ⟨s', hr, h1, h2, h3⟩ := fanout_wakes_all k { s with pend := rest, woken := (i, none) :: s.woken } hc
      (by simpa [hp] using hl)
    refine ⟨s', ?_, h1, by simp [h2, hp], h3⟩
    simpa [List.replicate_succ, CS.run, CS.step, hc, hp] using hr

/-- No call blocks forever: in every state, a call in progress that is not waiting for a
    reply on a live connection has an enabled step of its own (enqueue, fan-out of the
    list head, or return). The only thing a caller ever waits for is the peer. -/
theorem no_stuck_state (s : CS) (i t : Nat) (hl : tagOf s i = some t) :
    (s.closed = false ∧ i ∈ s.pend) ∨                            -- waiting for the peer, connection alive
    ((s.step (.enqueue i)).isSome = true) ∨                       -- about to enter Rpcnb: always enabled
    (s.closed = true ∧ s.pend ≠ [] ∧ (s.step .fanout).isSome = true) ∨   -- the fan-out is running
    ((s.step (.ret i)).isSome = true) := by                       -- result available
  cases hf : s.woken.find? (·.1 == i) with
  | some w => exact .inr (.inr (.inr (by simp [CS.step, hf, hl])))
  | none =>
    have hw : s.woken.any (·.1 == i) = false := List.any_eq_false.2 (List.find?_eq_none.1 hf)
    by_cases hp : i ∈ s.pend
    · cases hc : s.closed with
      | false => exact .inl ⟨rfl, hp⟩
      | true =>
        obtain ⟨j, rest, hpp⟩ := List.exists_cons_of_ne_nil (List.ne_nil_of_mem hp)
        exact .inr (.inr (.inl ⟨rfl, by simp [hpp], by simp [CS.step, hc, hpp]⟩))
    · refine .inr (.inl ?_)
      cases he : s.err <;> simp [CS.step, hl, hp, hw, he]

/-! ### non-vacuity: three calls outstanding when the connection breaks -/
example : ((CS.init 4).run [.alloc 1, .alloc 2, .alloc 3, .enqueue 1, .enqueue 2, .enqueue 3, .fail,
    .fanout, .fanout, .fanout, .ret 1, .ret 2, .ret 3]).map (fun s => (s.pend, s.live.length, s.woken.length, s.free.length + s.cache.length))
    = some ([], 0, 0, 4) := by decide

section io
open G9.ClntIO

theorem ioinv_run (es : List ClntIO.Ev) (s s' : HS) (h : HSInv s) (hr : s.run es = some s') : HSInv s' :=
  HS.isRun.inv ioinv_step es s s' h hr

/-- The writer goroutine is there for as long as the receiver may want to stop it: in every
    reachable state it has returned exactly when the handshake `clnt.done <- true` is over. -/
theorem writer_outlives_receiver (es : List ClntIO.Ev) (s : HS) (h : HS.init.run es = some s) :
    s.w = .gone ↔ s.r = .closed :=
  (ioinv_run es _ s ioinv_init h).gone

/-- Until the receiver has closed, the writer is at its select after at most one step: it is there
    already, or the Write it is in ends. -/
theorem writer_returns (s : HS) (inv : HSInv s) (hc : s.r ≠ .closed) :
    ∃ es, es.length ≤ 1 ∧ s.run es = some { s with w := .idle } := by
  cases hw : s.w with
  | idle => exact ⟨[], by simp, by cases s; simp_all [HS.run]⟩
  | writing j => exact ⟨[.wrote], by simp, by simp [HS.run, HS.step, hw]⟩
  | gone => exact absurd (inv.gone.1 hw) hc

/-- The receiver is never stuck at `clnt.done <- true`: whatever the writer is doing — waiting at
    its select, or inside a Write (which returns, with an error once the socket is gone) — at most
    two steps later the handshake is over and `closed` is closed, which is what lets the error
    fan-out (`fanout_wakes_all`) begin. -/
theorem shutdown_completes (es : List ClntIO.Ev) (s : HS) (h : HS.init.run es = some s) (hr : s.r = .stopping) :
    ∃ es' s', es'.length ≤ 2 ∧ s.run es' = some s' ∧ s'.r = .closed := by
  obtain ⟨pre, hl, hrun⟩ := writer_returns s (ioinv_run es _ s ioinv_init h) (by simp [hr])
  refine ⟨pre ++ [.stop], { s with r := .closed, w := .gone }, by simp; omega, ?_, rfl⟩
  rw [HS.isRun.append, hrun]; simp [HS.run, HS.step, hr]

/-- A caller that has queued its request and waits to hand it to the writer never waits for
    ever: either the writer takes it (at once, or after the Write it is in) or — the connection
    having failed — `closed` lets it go; in at most two steps it has left the select. -/
theorem caller_leaves_the_select (es : List ClntIO.Ev) (s : HS) (h : HS.init.run es = some s) (i : Nat)
    (hi : i ∈ s.handing) (hnr : s.r ≠ .stopping) :
    ∃ es' s', es'.length ≤ 2 ∧ s.run es' = some s' ∧ i ∉ s'.handing := by
  have inv := ioinv_run es _ s ioinv_init h
  have hgone : i ∉ s.handing.erase i := fun hm => (List.Nodup.mem_erase_iff inv.nodup).1 hm |>.1 rfl
  cases hrr : s.r with
  | stopping => exact absurd hrr hnr
  | closed =>
    refine ⟨[.giveup i], { s with handing := s.handing.erase i, gaveup := s.gaveup ++ [i] }, by simp, ?_, hgone⟩
    simp [HS.run, HS.step, hi, hrr]
  | running =>
    obtain ⟨pre, hl, hrun⟩ := writer_returns s inv (by simp [hrr])
    refine ⟨pre ++ [.handoff i], { s with handing := s.handing.erase i, taken := s.taken ++ [i], w := .writing i },
      by simp; omega, ?_, hgone⟩
    rw [HS.isRun.append, hrun]; simp [HS.run, HS.step, hi]

/-- Witness that the writer's return to its select after a failed Write carries all this: with a
    writer that returns instead (seeded change C10-6), after "request taken, connection fails,
    Write fails" the receiver sits at `clnt.done <- true` for ever — no event of the system is
    enabled but new callers arriving, who then wait as well. -/
theorem failed_write_exit_deadlocks :
    let s : HS := { handing := [], taken := [1], gaveup := [], w := .gone, r := .stopping }
    ([ClntIO.Ev.enq 1, .handoff 1, .rfail, .wfail].foldl (fun o e => o.bind (fun s => HS.stepExit s e)) (some HS.init) = some s) ∧
    ∀ e, (∀ i, e ≠ .enq i) → HS.stepExit s e = none := by
  refine ⟨by decide, fun e he => ?_⟩
  cases e with
  | enq i => exact absurd rfl (he i)
  | _ => simp [HS.stepExit, HS.step]

example : (HS.init.run [.enq 1, .enq 2, .handoff 1, .rfail, .wfail, .stop, .giveup 2]).map (fun s => (s.taken, s.gaveup, s.handing)) =
    some ([1], [2], []) := by decide

end io

end G9.C10
