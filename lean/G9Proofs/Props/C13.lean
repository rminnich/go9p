/-
  C13 — Behaviour depends on the byte stream, not on how it is segmented (models: G9.Frame, mirror of
  Conn.recv / Clnt.recv; G9.FrameV, the same loop with Tversions in the stream changing its parameters).
-/
import G9Proofs.Lemmas.Frame
namespace G9.C13
open G9.Frame

/-- feeding `a ++ b` in one read is feeding `a` and then `b`, also when frames in `a` change the
    msize and the dialect the later ones are checked and decoded with -/
theorem feedV_append (upd : Cfg → Bytes → Cfg) (s : VS) (a b : Bytes) :
    feedV upd s (a ++ b) =
      ((feedV upd (feedV upd s a).1 b).1, (feedV upd s a).2 ++ (feedV upd (feedV upd s a).1 b).2) := by
  unfold feedV
  by_cases hd : s.dead = true
  · simp [hd]
  · have e1 : ∀ (c : Cfg) (u : Bytes), extractV upd (u.length + 1) c u = exV upd c u := fun _ _ => rfl
    simp only [hd, Bool.false_eq_true, if_false, e1]
    rw [← List.append_assoc, exV_append upd _ s.cfg (s.unread ++ a) b (Nat.lt_succ_self _)]
    -- either way the two sides differ by projections (and `++ []`)
    split <;> simp [*]

/-- feeding `a ++ b` in one read is feeding `a` and then `b` -/
theorem feed_append (cfg : Cfg) (s : RS) (a b : Bytes) :
    feed cfg s (a ++ b) =
      ((feed cfg (feed cfg s a).1 b).1, (feed cfg s a).2 ++ (feed cfg (feed cfg s a).1 b).2) := by
  have h := feedV_append (fun c _ => c) ⟨cfg, s.unread, s.dead⟩ a b
  simp only [feedV_const] at h
  exact congrArg (fun r => ((⟨r.1.unread, r.1.dead⟩ : RS), r.2)) h

/-- A reader that takes `a ++ b` as `a` and then `b` takes every way of cutting a stream into
    reads alike (`all` is the reader folded over the chunks). -/
theorem chunks_flatten {σ ω : Type} (f : σ → Bytes → σ × List ω) (all : σ → List Bytes → σ × List ω)
    (hnil : ∀ s, all s [] = (s, []))
    (hcons : ∀ s ch chs, all s (ch :: chs) = ((all (f s ch).1 chs).1, (f s ch).2 ++ (all (f s ch).1 chs).2))
    (happ : ∀ s a b, f s (a ++ b) = ((f (f s a).1 b).1, (f s a).2 ++ (f (f s a).1 b).2))
    (s : σ) (chunks : List Bytes) :
    all s chunks = f s chunks.flatten ∨ (chunks = [] ∧ all s chunks = (s, [])) := by
  cases chunks with
  | nil => exact .inr ⟨rfl, hnil s⟩
  | cons ch chs =>
    left
    induction chs generalizing s ch with
    | nil => rw [hcons, hnil, List.flatten_singleton, List.append_nil]
    | cons c cs ih => rw [hcons, ih, List.flatten_cons (l := ch), happ]

/-- For every stream and every way of cutting it into reads — chunks of any sizes, splits
    inside the size prefix included — the frames handed out, the point at which the
    connection is ended (if it is) and the unconsumed remainder are those of the stream
    delivered in one piece. -/
theorem segmentation_independent (cfg : Cfg) (s : RS) (chunks : List Bytes) :
    feedAll cfg s chunks = feed cfg s chunks.flatten ∨ (chunks = [] ∧ feedAll cfg s chunks = (s, [])) :=
  chunks_flatten (feed cfg) (feedAll cfg) (fun _ => rfl) (fun _ _ _ => rfl) (feed_append cfg) s chunks

/-- For every stream — Tversions that change msize and dialect anywhere in it — and every way of
    cutting it into reads, the frames handed out, the point at which the connection is ended, the
    unconsumed remainder and the parameters in force at the end are those of the stream delivered
    in one piece: a frame is checked and decoded with what the frames before it negotiated, not
    with what was in force when its `Read` began. -/
theorem segmentation_independent_renegotiating (upd : Cfg → Bytes → Cfg) (s : VS) (chunks : List Bytes) :
    feedAllV upd s chunks = feedV upd s chunks.flatten ∨ (chunks = [] ∧ feedAllV upd s chunks = (s, [])) :=
  chunks_flatten (feedV upd) (feedAllV upd) (fun _ => rfl) (fun _ _ _ => rfl) (feedV_append upd) s chunks

/-- what `Srv.version` does to the loop's parameters: the msize only ever shrinks, the gate stays -/
theorem version_lowers_only (srvDotu : Bool) (cfg : Cfg) (fr : Bytes) :
    (afterFrame srvDotu cfg fr).msize ≤ cfg.msize ∧ (afterFrame srvDotu cfg fr).gate = cfg.gate := by
  unfold afterFrame
  split
  · split
    · exact ⟨Nat.le_refl _, rfl⟩
    · refine ⟨?_, rfl⟩
      show (if _ then _ else _) ≤ _
      split <;> omega
  · exact ⟨Nat.le_refl _, rfl⟩

/-- two segmentations of the same stream are indistinguishable -/
theorem same_stream_same_behaviour (cfg : Cfg) (cs₁ cs₂ : List Bytes) (h : cs₁.flatten = cs₂.flatten)
    (h1 : cs₁ ≠ []) (h2 : cs₂ ≠ []) :
    feedAll cfg {} cs₁ = feedAll cfg {} cs₂ := by
  rcases segmentation_independent cfg {} cs₁ with e1 | ⟨e1, _⟩
  · rcases segmentation_independent cfg {} cs₂ with e2 | ⟨e2, _⟩
    · rw [e1, e2, h]
    · exact absurd e2 h2
  · exact absurd e1 h1

theorem binv_run (msize : Nat) (hm : 5 ≤ msize) (steps : List Step) (s s' : LS) (h : BInv msize s)
    (hr : s.run msize steps = some s') : BInv msize s' :=
  -- `hm` plays no part here; `read_window_nonempty` needs it
  (LS.isRun msize).inv (binv_step msize) steps s s' h hr

/-- Every `Read` has a non-empty window: whenever the loop is about to read — after any
    history of reads, complete frames, partial frames and reallocations — `pos < len(buf)`
    once the top-of-loop check has run (so `Read` is never called on an empty slice). -/
theorem read_window_nonempty (msize : Nat) (hm : 5 ≤ msize) (steps : List Step) (s : LS) (pend : Nat)
    (hr : (LS.init msize).run msize steps = some s) (hmode : s.mode = .outer pend) :
    (s.b.top msize).pos < (s.b.top msize).len := by
  have h := binv_run msize hm steps _ s (binv_init msize) hr
  obtain ⟨e, hx⟩ := wait_room msize msize h.fits (by omega)
  have hroom := h.room
  rw [hmode] at hroom
  -- with no frame pending only `pos ≤ 4` is known: here `5 ≤ msize` is needed
  have : s.b.pos < msize := by cases pend <;> simp at hroom <;> omega
  show (s.b.wait msize msize).pos < (s.b.wait msize msize).cap - (s.b.wait msize msize).base
  omega

/-- Request payloads are not disturbed by bytes that arrive later: after a frame has been
    handed out, no `Read` ever writes into the bytes it aliases. -/
theorem payload_stable (msize : Nat) (hm : 5 ≤ msize) (steps : List Step) (s s' : LS) (n : Nat)
    (hr : (LS.init msize).run msize steps = some s) (hs : s.step msize (.read n) = some s')
    (a off len : Nat) (hh : BEv.hand a off len ∈ s.log) :
    ∃ wa woff wlen, s'.log.head? = some (.write wa woff wlen) ∧ (wa ≠ a ∨ off + len ≤ woff) := by
  have h := binv_run msize hm steps _ s (binv_init msize) hr
  simp only [LS.step] at hs
  split at hs
  · split at hs <;> cases hs
    refine ⟨_, _, _, rfl, ?_⟩
    rcases wait_keeps msize msize (h.handed a off len hh) with h1 | ⟨h1, h2⟩
    · exact .inl (Nat.ne_of_gt h1)
    · exact .inr (Nat.le_trans h2 (Nat.le_add_right _ _))
  · cases hs

end G9.C13
