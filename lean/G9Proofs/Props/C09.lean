/-
  C09 — Client calls get their own reply, with distinct and recycled tags (models: G9.Clnt, over all reachable
  states: any number of callers, any reply order; G9.ReqList for the pending list as the code links it: in
  `LSt` its pointer operations run beside the list they stand for).
-/
import G9Proofs.Lemmas.Clnt
import G9Proofs.Lemmas.ReqList
namespace G9.C09
open G9.Clnt

def Inv (n : Nat) (s : CS) : Prop := (tags s).Perm (List.range n)

/-- In every reachable state — any number of callers, any interleaving, any reply order,
    failures included — the tags are exactly accounted for: the free tags, the tags of
    parked request slots and the tags of calls in progress together are a permutation of
    the pool. No tag is lost, none is duplicated. -/
theorem tags_partition (n : Nat) (es : List Ev) (s : CS) (h : (CS.init n).run es = some s) : Inv n s :=
  CS.isRun.inv (P := Inv n) (fun s s' e hp hs => (step_tags s s' e hs).trans hp) es _ s (by simp [Inv, tags, CS.init]) h

/-- hence the tags outstanding at any instant are pairwise distinct -/
theorem outstanding_tags_nodup (n : Nat) (es : List Ev) (s : CS) (h : (CS.init n).run es = some s) :
    (s.live.map (·.2)).Nodup := by
  have hn : (tags s).Nodup := (tags_partition n es s h).nodup_iff.2 List.nodup_range
  exact (List.nodup_append.1 hn).2.1

/-- and tags are recycled: the number of tags not held by a call in progress is the pool
    size minus the calls in progress — after any number of completed calls everything is
    available again, so an unbounded number of calls can be made -/
theorem tags_recycled (n : Nat) (es : List Ev) (s : CS) (h : (CS.init n).run es = some s) :
    s.free.length + s.cache.length + s.live.length = n := by
  have hp := (tags_partition n es s h).length_eq
  simp [tags] at hp
  omega

/-- A reply is delivered to the call whose tag it carries — the first (and by
    `outstanding_tags_nodup` only) pending call with that tag — with the frame's payload; no
    other call's state changes. -/
theorem own_reply (s s' : CS) (t p : Nat) (h : s.step (.deliver t p) = some s') (hc : s'.closed = false) :
    ∃ i, tagOf s i = some t ∧ i ∈ s.pend ∧ s'.woken = (i, some p) :: s.woken ∧ s'.pend = s.pend.erase i ∧
      s'.live = s.live := by
  obtain ⟨-, rfl⟩ | ⟨i, hi, ht, rfl⟩ := step_some h
  · cases hc
  · exact ⟨i, ht, hi, rfl, rfl, rfl⟩

/-- a frame whose tag belongs to no pending call fails the connection (it is not handed to
    anybody) -/
theorem unknown_tag_fails (s s' : CS) (t p : Nat) (h : s.step (.deliver t p) = some s')
    (hn : ∀ i ∈ s.pend, tagOf s i ≠ some t) : s'.err = true ∧ s'.closed = true ∧ s'.woken = s.woken := by
  obtain ⟨-, rfl⟩ | ⟨i, hi, ht, -⟩ := step_some h
  · exact ⟨rfl, rfl, rfl⟩
  · exact absurd ht (hn i hi)

example : ((CS.init 4).run [.alloc 7, .alloc 8, .enqueue 7, .enqueue 8, .deliver 1 99, .ret 8, .deliver 0 55, .ret 7]).map
    (fun s => (s.free, s.cache, s.live, s.pend)) = some ([2, 3], [1, 0], [], []) := by decide


/-- The pipelined Tag interface: its requests carry the Tag's own tag, so several pending calls
    share one (states `alloc` never produces). The receiver gives a reply to the *oldest* pending
    call with that tag — the list is in issue order (`enqueue` appends) — so calls sharing a tag
    are completed in the order they were issued, whatever else is pending in between. -/
theorem shared_tag_replies_in_issue_order (s : CS) (t p i : Nat) (before after : List Nat)
    (hc : s.closed = false) (hpend : s.pend = before ++ i :: after) (hi : tagOf s i = some t)
    (hb : ∀ j ∈ before, tagOf s j ≠ some t) :
    s.step (.deliver t p) = some { s with pend := s.pend.erase i, woken := (i, some p) :: s.woken } := by
  have hfind : s.pend.find? (fun j => tagOf s j == some t) = some i := by
    rw [hpend, List.find?_append, List.find?_eq_none.2 fun j hj => by simpa using hb j hj]
    simp [hi]
  simp [CS.step, hc, hfind]

section reqlist
open G9.ReqList

/-- what a `Req` object goes through: appended by Rpcnb, unlinked by recv (a reply, or the error
    fan-out), its links cleared by ReqFree before it is used again -/
inductive LOp where
  | app (r : Nat)
  | unl (r : Nat)
  | free (r : Nat)
  deriving Repr, DecidableEq

/-- concrete and abstract state side by side: the linked structure, the list it is meant to be,
    and the requests that are unlinked but not yet cleared -/
structure LSt where
  rl : RL := {}
  abs : List Nat := []
  dirty : List Nat := []

/-- the discipline of clnt_clnt.go: only a cleared request is appended, only a listed one is
    unlinked, only an unlinked one is cleared -/
def LSt.step (s : LSt) : LOp → Option LSt
  | .app r => if r ∈ s.abs ∨ r ∈ s.dirty then none else some { s with rl := s.rl.append r, abs := s.abs ++ [r] }
  | .unl r => if r ∈ s.abs then some { rl := s.rl.unlink r, abs := s.abs.erase r, dirty := r :: s.dirty } else none
  | .free r => if r ∈ s.dirty then some { s with rl := s.rl.free r, dirty := s.dirty.filter (· ≠ r) } else none

def LSt.run (s : LSt) : List LOp → Option LSt
  | [] => some s
  | o :: os => (s.step o).bind (fun s' => s'.run os)

structure LInv (s : LSt) : Prop where
  repr : Rep s.rl s.abs
  clean : ∀ r, r ∉ s.abs → r ∉ s.dirty → s.rl.next r = none
  apart : ∀ r, r ∈ s.dirty → r ∉ s.abs

theorem linv_init : LInv {} :=
  ⟨⟨by simp, rfl, rfl, trivial⟩, fun _ _ _ => rfl, by intro r hr; simp at hr⟩

theorem linv_step (s s' : LSt) (o : LOp) (h : LInv s) (hs : s.step o = some s') : LInv s' := by
  cases o <;> simp only [LSt.step] at hs <;> split at hs <;> cases hs
  case app r hn =>
    have hra : r ∉ s.abs := fun hm => hn (.inl hm)
    have hrd : r ∉ s.dirty := fun hm => hn (.inr hm)
    refine ⟨append_repr s.rl s.abs r h.repr hra (h.clean r hra hrd), fun x hx hxd => ?_, fun x hx hm => ?_⟩
    · have hxa : x ∉ s.abs := fun hm => hx (List.mem_append_left _ hm)
      rw [append_next, if_neg fun e => hxa (List.mem_of_getLast? (h.repr.last ▸ e))]
      exact h.clean x hxa hxd
    · rcases List.mem_append.1 hm with hm | hm
      · exact h.apart x hx hm
      · exact hrd (List.mem_singleton.1 hm ▸ hx)
  case unl r hr =>
    refine ⟨unlink_repr s.rl s.abs r h.repr hr, fun x hx hxd => ?_, fun x hx hm => ?_⟩
    · have hxr : x ≠ r := fun e => hxd (e ▸ List.mem_cons_self)
      have hxa : x ∉ s.abs := fun hm => hx ((List.mem_erase_of_ne hxr).2 hm)
      -- unlink writes `next` only at the predecessor of r, a member of the list
      obtain ⟨pre, post, hl⟩ := List.append_of_mem hr
      rw [unlink_next, (repr_split s.rl pre post r (hl ▸ h.repr)).1,
        if_neg fun e => hxa (hl ▸ List.mem_append_left _ (List.mem_of_getLast? e))]
      exact h.clean x hxa fun hm => hxd (List.mem_cons_of_mem _ hm)
    · rcases List.mem_cons.1 hx with rfl | hx
      · exact ((List.Nodup.mem_erase_iff h.repr.nodup).1 hm).1 rfl
      · exact h.apart x hx (List.mem_of_mem_erase hm)
  case free r hr =>
    obtain ⟨h1, h2⟩ := free_repr s.rl s.abs r h.repr (h.apart r hr)
    refine ⟨h1, fun x hx hxd => ?_, fun x hx => h.apart x (List.mem_filter.1 hx).1⟩
    by_cases hxr : x = r
    · exact hxr ▸ h2
    · have := h.clean x hx fun hm => hxd (List.mem_filter.2 ⟨hm, by simpa using hxr⟩)
      simpa [RL.free, hxr] using this

theorem LSt.isRun : Run.Of LSt.step LSt.run := ⟨fun _ => rfl, fun _ _ _ => rfl⟩

theorem linv_run (os : List LOp) (s s' : LSt) (h : LInv s) (hr : s.run os = some s') : LInv s' :=
  LSt.isRun.inv linv_step os s s' h hr

/-- Whatever the history of calls — any number of them, requests recycled any number of times,
    replies in any order — the linked structure `reqfirst`/`next`/`prev`/`reqlast` is exactly the
    list G9.Clnt speaks of: walking `next` from `reqfirst` (the tag search of recv, the error
    fan-out) visits the pending requests, each once, in the order they were queued. -/
theorem pending_list_is_the_list (os : List LOp) (s : LSt) (h : ({} : LSt).run os = some s) :
    s.rl.walk (s.abs.length + 1) s.rl.first = s.abs ∧ s.abs.Nodup := by
  have inv := linv_run os _ s linv_init h
  refine ⟨?_, inv.repr.nodup⟩
  rw [inv.repr.first]
  exact walk_chain s.rl s.abs none _ inv.repr.chain (by omega)

/-- the `ReqFree` of seeded change C09-7: the links are left as they are -/
def stepStale (s : LSt) : LOp → Option LSt
  | .free r => if r ∈ s.dirty then some { s with dirty := s.dirty.filter (· ≠ r) } else none
  | o => s.step o

/-- Witness that clearing the links in `ReqFree` carries the refinement: without it, two
    overlapping calls answered in order and one more call on the recycled request leave a list
    whose walk finds a request that is no longer pending. -/
theorem stale_links_corrupt_the_list :
    ([LOp.app 1, .app 2, .unl 1, .free 1, .unl 2, .free 2, .app 1].foldl (fun o e => o.bind (fun s => stepStale s e)) (some {})).map
      (fun s => (s.abs, s.rl.walk 5 s.rl.first)) = some ([1], [1, 2]) := by decide

example : (({} : LSt).run [.app 1, .app 2, .app 3, .unl 2, .free 2, .app 2, .unl 1]).map (fun s => (s.abs, s.rl.walk 9 s.rl.first)) =
    some ([3, 2], [3, 2]) := by decide

end reqlist

/-! non-vacuity: callers 1 and 3 share tag 7 (a Tag), caller 2 has a pooled tag in between -/
def exTag : CS :=
  { free := [], cache := [], live := [(1, 7), (2, 0), (3, 7)], pend := [1, 2, 3], woken := [], refused := [],
    err := false, closed := false }

example : (exTag.step (.deliver 7 42)).map (fun s => (s.pend, s.woken)) = some ([2, 3], [(1, some 42)]) := by decide

end G9.C09
