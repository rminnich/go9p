/-
  C12 — Version and msize negotiation is honoured in both directions (models: G9.SrvSeq for the server side,
  G9.Version for the client's, G9.Wire.Spec for lengths, G9.BufPool for the reply buffers).
-/
import G9Proofs.Lemmas.BufPool
import G9Proofs.Lemmas.StepRefs
import G9Proofs.Lemmas.WirePack
import G9.Version
namespace G9.C12
open G9.Srv

variable (cfg : Cfg) (impl : Impl) (c : Conn)

theorem iohdrsz_toNat : (IOHDRSZ : UInt32).toNat = 24 := rfl

/-- Tversion: refused iff the client's msize cannot carry an I/O header; otherwise the
    connection's msize becomes min(client, current), the dialect is 9P2000.u iff the client
    asked for exactly that and the server speaks it (plain 9P2000 otherwise), and the
    answer is Rversion with the negotiated values.  Nothing reaches the implementation. -/
theorem negotiate_spec (ms : UInt32) (ver : Bytes) :
    (ms.toNat < 24 →
      pre cfg impl c (.tversion ms ver) = ⟨c, [], .refuse .msizeSmall⟩) ∧
    (24 ≤ ms.toNat →
      ∃ m du, pre cfg impl c (.tversion ms ver) =
          ⟨{ c with msize := m, dotu := du }, [], .answer [] (.r (.rversion m (if du then v9P2000u else v9P2000)))⟩ ∧
        m.toNat = min ms.toNat c.msize.toNat ∧ du = (ver == v9P2000u && cfg.srvDotu)) := by
  refine ⟨fun h => ?_, fun h => ?_⟩
  · have hlt : ms < IOHDRSZ := by rw [UInt32.lt_iff_toNat_lt, iohdrsz_toNat]; exact h
    exact if_pos hlt
  · have hlt : ¬ ms < IOHDRSZ := by rw [UInt32.lt_iff_toNat_lt, iohdrsz_toNat]; omega
    refine ⟨if ms < c.msize then ms else c.msize, _, if_neg hlt, ?_, rfl⟩
    by_cases hm : ms < c.msize
    · have := UInt32.lt_iff_toNat_lt.mp hm
      rw [if_pos hm]; omega
    · have : ¬ ms.toNat < c.msize.toNat := fun h => hm (UInt32.lt_iff_toNat_lt.mpr h)
      rw [if_neg hm]; omega

/-- the Rversion always fits the negotiated msize -/
theorem rversion_fits (du : Bool) (m : UInt32) (h : 24 ≤ m.toNat) :
    (Spec.encode du 0 (.rversion m (if du then v9P2000u else v9P2000))).length ≤ m.toNat := by
  rw [encode_length]
  cases du <;> simp [Spec.body, Spec.str, v9P2000u, v9P2000] <;> omega

/-- msize never grows and never drops below an I/O header; the dialect changes only by
    Tversion -/
theorem msize_monotone (t : Msg) (h : 24 ≤ c.msize.toNat) :
    24 ≤ (step cfg impl c t).1.msize.toNat ∧ (step cfg impl c t).1.msize.toNat ≤ c.msize.toNat := by
  rw [(step_msize_pre cfg impl c t).1]
  by_cases hv : ∃ ms v, t = .tversion ms v
  · obtain ⟨ms, v, rfl⟩ := hv
    obtain ⟨h1, h2⟩ := negotiate_spec cfg impl c ms v
    by_cases hlt : ms.toNat < 24
    · rw [h1 hlt]; exact ⟨h, Nat.le_refl _⟩
    · obtain ⟨m, du, he, hmin, _⟩ := h2 (by omega)
      rw [he]; simp only; omega
  · rw [((pre_cases cfg impl c t).msize (fun ms v e => hv ⟨ms, v, e⟩)).1]; exact ⟨h, Nat.le_refl _⟩

/-- the error text is cut so that an Rerror always fits: no reply exceeds msize -/
theorem rerror_fits (ename : Bytes) (ecode : UInt32) (h : 24 ≤ c.msize.toNat) :
    (Spec.encode c.dotu 0 (rerrorMsg c ename ecode)).length ≤ c.msize.toNat := by
  rw [encode_length]
  unfold rerrorMsg
  cases hd : c.dotu <;> simp [Spec.body, Spec.str, List.length_take] <;> omega

/-- Every reply the framework sends — R-message or error, whatever the implementation
    answered — is at most the negotiated msize long. -/
theorem no_reply_exceeds_msize (t : Msg) (h : 24 ≤ c.msize.toNat) :
    let r := step cfg impl c t
    (Spec.encode r.1.dotu 0 (wireReply r.1 r.2.reply)).length ≤ r.1.msize.toNat := by
  intro r
  have herr : ∀ n k, (Spec.encode r.1.dotu 0 (rerrorMsg r.1 n k)).length ≤ r.1.msize.toNat :=
    fun n k => rerror_fits r.1 n k (msize_monotone cfg impl c t h).1
  obtain ⟨hm, hd⟩ : r.1.msize = _ ∧ r.1.dotu = _ := step_msize_pre cfg impl c t
  show (Spec.encode r.1.dotu 0 (wireReply r.1 (stepRep cfg impl c t))).length ≤ _
  unfold stepRep
  cases (pre cfg impl c t).pre with
  | refuse e => exact herr _ _
  | answer calls a =>
    cases a with
    | e n k => exact herr _ _
    | r m =>
      dsimp only [fitReply]
      split
      · rename_i hfit; rw [hm, hd]; exact hfit
      · exact herr _ _

/-- the receive loop's gate: a frame is executed iff it is not longer than msize; a longer
    one ends the connection before anything is executed -/
theorem frame_size_gate (t : Msg) :
    (stepFrame cfg impl c t = none ↔ c.msize.toNat < (Spec.encode c.dotu 0 t).length) := by
  unfold stepFrame
  split <;> simp_all


theorem v_ne : (v9P2000 == v9P2000u) = false := by decide

/-- The whole exchange on a fresh connection, for every client msize that can carry an I/O header
    and every combination of what the two sides speak: client and server end up with the same
    msize, min(client, server), and the same dialect, 9P2000.u exactly when both asked for it. -/
theorem both_sides_agree (cm : UInt32) (cdotu : Bool) (h : 24 ≤ cm.toNat) (hs : 24 ≤ cfg.srvMsize.toNat) :
    ∃ m d sc, Version.connect cfg impl cm cdotu = some ((m, d), sc) ∧
      sc.msize = m ∧ sc.dotu = d ∧
      m.toNat = min cm.toNat cfg.srvMsize.toNat ∧ d = (cdotu && cfg.srvDotu) := by
  obtain ⟨m, du, hpre, hmin, hdu⟩ :=
    (negotiate_spec cfg impl (Conn.init cfg) cm (Version.clientVersion cdotu)).2 h
  have hmin : m.toNat = min cm.toNat cfg.srvMsize.toNat := hmin
  have hdu : du = (cdotu && cfg.srvDotu) := by
    rw [hdu]; unfold Version.clientVersion
    cases cdotu <;> simp [v_ne]
  refine ⟨m, du, { (Conn.init cfg) with msize := m, dotu := du }, ?_, rfl, rfl, hmin, hdu⟩
  have hstep : (step cfg impl (Conn.init cfg) (.tversion cm (Version.clientVersion cdotu))) =
      ({ (Conn.init cfg) with msize := m, dotu := du },
       { calls := [], reply := .r (.rversion m (if du then v9P2000u else v9P2000)), destroyed := [] }) := by
    unfold step
    rw [hpre]
    simp [fitReply, rversion_fits du m (by omega), decRefs, Conn.init]
  unfold Version.connect
  rw [hstep]
  -- the client keeps the smaller of its own msize and the server's answer, which is the answer; the server
  -- answers .u only if asked and able
  have hcm : (if m < cm then m else cm) = m := by
    split
    · rfl
    · rename_i hlt
      rw [UInt32.lt_iff_toNat_lt] at hlt
      exact UInt32.toNat_inj.mp (by omega)
  have hd2 : ((if du = true then v9P2000u else v9P2000) == v9P2000u && cdotu) = du := by
    rw [hdu]
    cases cdotu <;> cases cfg.srvDotu <;> simp [v_ne]
  simp only [Version.clientAfter, hcm, hd2]

section Buf
open G9.BufPool

theorem binv_run (es : List BEv) (s s' : BS) (h : BInv s) (hr : s.run es = some s') : BInv s' :=
  BS.isRun.inv binv_step es s s' h hr

/-- Whatever the history of a connection — any number of Tversions, requests, replies, in any
    order — the reply buffer a request is given is exactly msize bytes long at that moment… -/
theorem taken_buffer_is_msize (srvMsize : Nat) (h0 : BufPool.IOHDRSZ ≤ srvMsize) (es : List BEv) (s s' : BS)
    (hr : (BS.init srvMsize).run es = some s) (e : BEv) (he : e = .takePooled ∨ e = .takeFresh)
    (hs : s.step e = some s') : s'.out = s.out ++ [s.msize] := by
  have h := binv_run es _ s (binv_init srvMsize h0) hr
  rcases he with rfl | rfl
  · obtain ⟨b, rest, hp, rfl⟩ := bstep_some hs
    rw [cut_of_le (h.pool b (hp ▸ List.mem_cons_self))]
  · cases bstep_some hs; rfl

/-- …and stays at least msize long while the request is in progress, so every count the guards
    of srv_fcall.go let through (`count ≤ msize − BufPool.IOHDRSZ`) fits it together with the Rread
    header (11 bytes), the Rwrite, or any other fixed part up to BufPool.IOHDRSZ. -/
theorem admitted_count_fits (srvMsize : Nat) (h0 : BufPool.IOHDRSZ ≤ srvMsize) (es : List BEv) (s : BS)
    (hr : (BS.init srvMsize).run es = some s) (b : Nat) (hb : b ∈ s.out) (count : Nat)
    (hc : count ≤ s.msize - BufPool.IOHDRSZ) : count + BufPool.IOHDRSZ ≤ b ∧ count + 11 ≤ b := by
  have h := binv_run es _ s (binv_init srvMsize h0) hr
  have h1 := h.out b hb
  have h2 := h.hdr
  unfold BufPool.IOHDRSZ at *
  omega

theorem msize_never_grows (es : List BEv) (s s' : BS) (hr : s.run es = some s') : s'.msize ≤ s.msize := by
  refine BS.isRun.inv (P := (·.msize ≤ s.msize)) (fun a b e ha hs => Nat.le_trans ?_ ha) es s s' (Nat.le_refl _) hr
  have hs := bstep_some hs
  cases e with
  | version _ => obtain ⟨m, rfl, hm, -⟩ := hs; exact hm
  | takePooled => obtain ⟨_, _, -, rfl⟩ := hs; exact Nat.le_refl _
  | give i => obtain ⟨_, -, rfl⟩ := hs; exact Nat.le_refl _
  | _ => cases hs; exact Nat.le_refl _

/-- Witness that the rule "a Tversion never raises the msize" carries the result: with a Tversion
    that negotiates against the server's msize again (seeded change C06-7) a request gets a
    64-byte buffer on a connection whose msize is 8192, and a count of 4096 passes the guard. -/
theorem raising_version_breaks_the_fit :
    let run := fun (s : BS) (es : List BEv) => es.foldl (fun o e => o.bind (fun s => BS.stepRaising 8192 s e)) (some s)
    (run (BS.init 8192) [.version 64, .takeFresh, .give 0, .version 8192, .takePooled]).map (fun s => (s.msize, s.out)) =
      some (8192, [64]) := by decide

example : ((BS.init 8192).run [.version 64, .takeFresh, .give 0, .version 8192, .takePooled]).map (fun s => (s.msize, s.out)) =
    some (64, [64]) := by decide

end Buf

end G9.C12
