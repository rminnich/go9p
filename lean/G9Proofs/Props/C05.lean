/-
  C05 — Protocol rules are enforced before the implementation is called (model: G9.SrvSeq).  `impl`, the
  file-server implementation, is universally quantified: "whatever the implementation".
-/
import G9Proofs.Lemmas.StepRefs
namespace G9.C05
open G9.Srv

/-- refused: an error reply produced by the framework, nothing forwarded -/
def Refused (o : Obs) : Prop := (∃ e, o.reply = .err e) ∧ o.calls = []

variable (cfg : Cfg) (impl : Impl) (c : Conn)

theorem refused_of_pre {t : Msg} (h : (pre cfg impl c t).refused) : Refused (step cfg impl c t).2 :=
  let ⟨e, he⟩ := h
  ⟨⟨e, (step_of_refuse he).1⟩, (step_of_refuse he).2⟩

/- Each proof evaluates the prologue of `pre` on the known fid, then follows the handler's guards in code order. -/

/-- walking from an open fid, or by name from a non-directory -/
theorem walk_refused (f nf : UInt32) (names : List Bytes) (r : FidRec)
    (hl : lookup c.fids f = some r) (hf : f ≠ NOFID)
    (h : r.opened = true ∨ (names ≠ [] ∧ isDir r = false)) :
    Refused (step cfg impl c (.twalk f nf names)).2 := by
  refine refused_of_pre cfg impl c ?_
  rw [show pre cfg impl c (.twalk f nf names) = _ from fid_known hf hl]
  refine iteInduction (fun _ => ⟨_, rfl⟩) (fun hd => iteInduction (fun _ => ⟨_, rfl⟩) (fun ho => ?_))
  rcases h with h | ⟨h1, h2⟩
  · exact absurd h ho
  · exact absurd (by simp [List.length_pos_iff.mpr h1, h2]) hd

/-- opening an open fid, or a directory other than for reading -/
theorem open_refused (f : UInt32) (mode : UInt8) (r : FidRec)
    (hl : lookup c.fids f = some r) (hf : f ≠ NOFID)
    (h : r.opened = true ∨ (isDir r = true ∧ mode ≠ OREAD)) :
    Refused (step cfg impl c (.topen f mode)).2 := by
  refine refused_of_pre cfg impl c ?_
  rw [show pre cfg impl c (.topen f mode) = _ from fid_known hf hl]
  refine iteInduction (fun _ => ⟨_, rfl⟩) (fun ho => iteInduction (fun _ => ⟨_, rfl⟩) (fun hd => ?_))
  rcases h with h | ⟨h1, h2⟩
  · exact absurd h ho
  · exact absurd (by simp [h1, h2]) hd

/-- creating through an open fid or a non-directory, or a special file on a non-.u connection -/
theorem create_refused (f : UInt32) (name : Bytes) (perm : UInt32) (mode : UInt8) (ext : Bytes) (r : FidRec)
    (hl : lookup c.fids f = some r) (hf : f ≠ NOFID)
    (h : r.opened = true ∨ isDir r = false ∨ (perm &&& DMSPECIAL ≠ 0 ∧ c.dotu = false)) :
    Refused (step cfg impl c (.tcreate f name perm mode ext)).2 := by
  refine refused_of_pre cfg impl c ?_
  rw [show pre cfg impl c (.tcreate f name perm mode ext) = _ from fid_known hf hl]
  refine
    iteInduction (fun _ => ⟨_, rfl⟩) fun ho =>      -- open
    iteInduction (fun _ => ⟨_, rfl⟩) fun hd =>      -- not a directory
    iteInduction (fun _ => ⟨_, rfl⟩) fun _ =>       -- a directory, with a mode other than OREAD
    iteInduction (fun _ => ⟨_, rfl⟩) fun hs => ?_   -- a special file
  rcases h with h | h | ⟨h1, h2⟩
  · exact absurd h ho
  · exact absurd (by simp [h]) hd
  · exact absurd (by simp [h1, h2]) hs

/-- writing through a fid that is not open for writing, or is a directory -/
theorem write_refused (f : UInt32) (off : UInt64) (cnt : UInt32) (d : Bytes) (r : FidRec)
    (hl : lookup c.fids f = some r) (hf : f ≠ NOFID) (hna : isAuth r = false)
    (h : r.opened = false ∨ isDir r = true ∨ r.omode &&& 3 = OREAD ∨ r.omode &&& 3 = OEXEC) :
    Refused (step cfg impl c (.twrite f off cnt d)).2 := by
  refine refused_of_pre cfg impl c ?_
  rw [show pre cfg impl c (.twrite f off cnt d) = _ from fid_known hf hl]
  refine iteInduction (fun ha => absurd (hna.symm.trans ha) Bool.false_ne_true) (fun _ =>
    iteInduction (fun _ => ⟨_, rfl⟩) (fun hb => ?_))
  exact absurd (by rcases h with h | h | h | h <;> simp [h]) hb

theorem count_gt {cnt : UInt32} (hm : 24 ≤ c.msize.toNat) (h : c.msize.toNat - 24 < cnt.toNat) :
    cnt > c.msize - IOHDRSZ := by
  show c.msize - IOHDRSZ < cnt
  rw [UInt32.lt_iff_toNat_lt, UInt32.toNat_sub_of_le _ _ (by rw [UInt32.le_iff_toNat_le]; exact hm)]
  exact h

/-- any read whose count exceeds msize − IOHDRSZ — for every 32-bit count, no wrap-around -/
theorem read_count_refused (f : UInt32) (off : UInt64) (cnt : UInt32) (r : FidRec)
    (hl : lookup c.fids f = some r) (hf : f ≠ NOFID) (hm : 24 ≤ c.msize.toNat)
    (h : c.msize.toNat - 24 < cnt.toNat) :
    (step cfg impl c (.tread f off cnt)).2.reply = .err .etoolarge ∧
    (step cfg impl c (.tread f off cnt)).2.calls = [] := by
  refine step_of_refuse ?_
  rw [show pre cfg impl c (.tread f off cnt) = _ from fid_known hf hl]
  exact congrArg Mid.pre (if_pos (count_gt c hm h))

/-- …and any write, through a fid that is open for writing -/
theorem write_count_refused (f : UInt32) (off : UInt64) (cnt : UInt32) (d : Bytes) (r : FidRec)
    (hl : lookup c.fids f = some r) (hf : f ≠ NOFID) (hna : isAuth r = false) (hm : 24 ≤ c.msize.toNat)
    (h : c.msize.toNat - 24 < cnt.toNat) :
    Refused (step cfg impl c (.twrite f off cnt d)).2 := by
  refine refused_of_pre cfg impl c ?_
  rw [show pre cfg impl c (.twrite f off cnt d) = _ from fid_known hf hl]
  exact
    iteInduction (fun ha => absurd (hna.symm.trans ha) Bool.false_ne_true) fun _ =>  -- no authentication fid
    iteInduction (fun _ => ⟨_, rfl⟩) fun _ =>                                         -- refused as a bad use, or
    iteInduction (fun _ => ⟨_, rfl⟩) fun hc => absurd (count_gt c hm h) hc            -- for its count

/-- A write that satisfies the rules is forwarded exactly once, with the fid, the user bound
    to it and the client's own arguments. -/
theorem write_forwarded (f : UInt32) (off : UInt64) (cnt : UInt32) (d : Bytes) (r : FidRec)
    (hl : lookup c.fids f = some r) (hf : f ≠ NOFID) (hna : isAuth r = false)
    (ho : r.opened = true) (hd : isDir r = false) (h1 : r.omode &&& 3 ≠ OREAD) (h2 : r.omode &&& 3 ≠ OEXEC)
    (hc : ¬ cnt > c.msize - IOHDRSZ) :
    (step cfg impl c (.twrite f off cnt d)).2.calls =
      [{ op := .write, fid := f, user := r.user, args := .twrite f off cnt d }] := by
  apply step_of_answer
  rw [show pre cfg impl c (.twrite f off cnt d) = _ from fid_known hf hl]
  exact congrArg Mid.pre (((if_neg (by rw [hna]; exact Bool.false_ne_true)).trans
    (if_neg (by simp [ho, hd, h1, h2]))).trans (if_neg hc))

/-- likewise a read (count within the limit, not an authentication fid) -/
theorem read_forwarded (f : UInt32) (off : UInt64) (cnt : UInt32) (r : FidRec)
    (hl : lookup c.fids f = some r) (hf : f ≠ NOFID) (hna : isAuth r = false)
    (hc : ¬ cnt > c.msize - IOHDRSZ) :
    (step cfg impl c (.tread f off cnt)).2.calls =
      [{ op := .read, fid := f, user := r.user, args := .tread f off cnt }] := by
  apply step_of_answer
  rw [show pre cfg impl c (.tread f off cnt) = _ from fid_known hf hl]
  exact congrArg Mid.pre ((if_neg hc).trans (if_neg (by rw [hna]; exact Bool.false_ne_true)))

/-- an open that satisfies the rules -/
theorem open_forwarded (f : UInt32) (mode : UInt8) (r : FidRec)
    (hl : lookup c.fids f = some r) (hf : f ≠ NOFID) (ho : r.opened = false)
    (hd : isDir r = false ∨ mode = OREAD) :
    (step cfg impl c (.topen f mode)).2.calls =
      [{ op := .open, fid := f, user := r.user, args := .topen f mode }] := by
  apply step_of_answer
  rw [show pre cfg impl c (.topen f mode) = _ from fid_known hf hl]
  exact congrArg Mid.pre ((if_neg (by rw [ho]; exact Bool.false_ne_true)).trans
    (if_neg (by rcases hd with hd | hd <;> simp [hd])))

/-- shape of what an attach forwards when the implementation provides authentication -/
theorem attach_calls_auth (fid afid : UInt32) (un an : Bytes) (n : UInt32) (ha : cfg.hasAuth = true) :
    ∀ calls a, (pre cfg impl c (.tattach fid afid un an n)).pre = .answer calls a →
      ∃ chk : Call, chk.op = .authCheck ∧ chk.fid = fid ∧ chk.args = .tattach fid afid un an n ∧
        ((∃ e k, impl chk = .e e k ∧ calls = [chk]) ∨
         (∃ m att, impl chk = .r m ∧ calls = [chk, att] ∧ att.op = .attach ∧ att.fid = fid ∧
            att.afid = chk.afid ∧ att.user = chk.user ∧ att.args = chk.args)) := by
  intro calls a
  -- the conclusion `G` does not speak of the outcome of `pre`: refusals answer nothing, …
  generalize hG : (∃ chk : Call, _) = G
  let P : Mid → Prop := fun m => m.pre = .answer calls a → G
  have vac : ∀ {c' held e}, P ⟨c', held, .refuse e⟩ := fun h => nomatch h
  unfold pre
  refine iteInduction (fun _ => vac) (fun _ => ?_)
  cases fidNew c.fids fid 0 with
  | none => exact vac
  | some fs =>
    cases userOf cfg c un n with
    | none => exact vac
    | some u =>
      refine iteInduction (fun _ => ?_) (fun _ => ?_)
      cases (if afid == fid then none else lookup fs afid) with
      | none => exact vac
      | some ar => ?_
      -- … and what answers is the end of the handler (`go`): the check, and the attach if it said yes
      all_goals
        refine iteInduction (fun _ => ?_) (fun h => absurd ha h)
        dsimp only
        subst hG
        split
        · rename_i e k hi
          intro h; cases h
          exact ⟨_, rfl, rfl, rfl, .inl ⟨e, k, hi, rfl⟩⟩
        · rename_i m hi
          intro h; cases h
          exact ⟨_, rfl, rfl, rfl, .inr ⟨m, _, hi, rfl, rfl, rfl, rfl, rfl, rfl⟩⟩

/-- When the implementation provides authentication, no attach reaches it unless the
    authentication check was made on exactly this attach and accepted it. -/
theorem auth_gate (fid afid : UInt32) (un an : Bytes) (n : UInt32) (ha : cfg.hasAuth = true)
    (call : Call) (hc : call ∈ (step cfg impl c (.tattach fid afid un an n)).2.calls)
    (hop : call.op = .attach) :
    ∃ chk ∈ (step cfg impl c (.tattach fid afid un an n)).2.calls,
      chk.op = .authCheck ∧ chk.fid = call.fid ∧ chk.afid = call.afid ∧ chk.args = call.args ∧
      ∃ m, impl chk = .r m := by
  cases hp : (pre cfg impl c (.tattach fid afid un an n)).pre with
  | refuse e => rw [(step_of_refuse hp).2] at hc; cases hc
  | answer calls a =>
    rw [step_of_answer hp] at hc ⊢
    obtain ⟨chk, h1, h2, _, h4⟩ := attach_calls_auth cfg impl c fid afid un an n ha calls a hp
    -- the attach is not the check, so it is the second of two calls
    have hne : call ≠ chk := fun e => by rw [e, h1] at hop; cases hop
    rcases h4 with ⟨e, k, _, rfl⟩ | ⟨m, att, him, rfl, _, hf, haf, _, hargs⟩
    · exact absurd (List.mem_singleton.1 hc) hne
    · rcases List.mem_cons.1 hc with hc | hc
      · exact absurd hc hne
      · cases List.mem_singleton.1 hc
        exact ⟨chk, List.mem_cons_self, h1, h2.trans hf.symm, haf.symm, hargs.symm, m, him⟩

end G9.C05
