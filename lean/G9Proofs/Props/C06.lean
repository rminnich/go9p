/-
  C06 — No client behaviour can crash the server.  A theorem can exclude a crash only where the model represents
  the trap: the mirrors of the decoder (G9.Wire.Go) and of the directory window (G9.UfsLogic) trap exactly where
  the Go code indexes or slices; for the framework (G9.SrvSeq) every request is refused or leaves a well-formed
  fid table.  What else can take a Go process down (unmodelled lines, the os package, concurrent requests on
  one fid's own fields) is found — not excluded — by the correspondence's hostile sessions.
-/
import G9Proofs.Props.C02
import G9Proofs.Props.C04
import G9Proofs.Props.C05
import G9Proofs.Props.C12
import G9Proofs.Props.C15
import G9Proofs.Props.C11
namespace G9.C06

/-- the decoder never traps on any byte string, in either dialect -/
theorem decode_never_traps (dotu : Bool) (bs : Bytes) : Go.unpack dotu bs ≠ Res.panic :=
  C02.unpack_total dotu bs

/-- nor does the stat-record decoder (Twstat bodies, directory entries) -/
theorem stat_decode_never_traps (dotu : Bool) (bs : Bytes) : Go.unpackDir dotu bs ≠ Res.panic :=
  C02.unpackDir_total dotu bs

/-- a directory read at any offset with any count never slices out of range -/
theorem dir_read_never_traps (ends : List Nat) (total off cnt : Nat) (h : Ufs.Snap ends total) :
    Ufs.window ends total off cnt ≠ Ufs.WRes.panic :=
  C15.dirwindow_no_panic ends total off cnt h

/-- a frame longer than the negotiated msize is never executed: it ends its connection -/
theorem oversize_frame_not_executed (cfg : Srv.Cfg) (impl : Srv.Impl) (c : Srv.Conn) (t : Msg) :
    Srv.stepFrame cfg impl c t = none ↔ c.msize.toNat < (Spec.encode c.dotu 0 t).length :=
  C12.frame_size_gate cfg impl c t

/-- a request on an unknown or stale fid, or on NOFID, is refused before the implementation
    is called and changes nothing -/
theorem bad_fid_refused (cfg : Srv.Cfg) (impl : Srv.Impl) (c : Srv.Conn) (t : Msg) (f : UInt32)
    (hf : Srv.msgFid t = some f) (hb : Srv.lookup c.fids f = none ∨ f = NOFID) :
    (Srv.step cfg impl c t).snd.reply = Srv.Reply.err Srv.FErr.unknownfid ∧
    (Srv.step cfg impl c t).snd.calls = [] ∧ (Srv.step cfg impl c t).fst.fids = c.fids :=
  let ⟨h1, h2, _, h4⟩ := C04.unknown_fid_refused cfg impl c t f hf hb
  ⟨h1, h2, h4⟩

/-- a huge read count (2^32-16 included) is refused, not forwarded -/
theorem huge_count_refused (cfg : Srv.Cfg) (impl : Srv.Impl) (c : Srv.Conn) (f : UInt32) (off : UInt64) (cnt : UInt32)
    (r : Srv.FidRec) (hl : Srv.lookup c.fids f = some r) (hn : f ≠ NOFID) (hm : 24 ≤ c.msize.toNat)
    (hc : c.msize.toNat - 24 < cnt.toNat) :
    (Srv.step cfg impl c (Msg.tread f off cnt)).snd.reply = Srv.Reply.err Srv.FErr.etoolarge ∧
    (Srv.step cfg impl c (Msg.tread f off cnt)).snd.calls = [] :=
  C05.read_count_refused cfg impl c f off cnt r hl hn hm hc

/-- whatever the request, the fid table stays well-formed: operations in any order, on fids in
    any state, never corrupt the bookkeeping later requests rely on -/
theorem any_request_keeps_table_wellformed (cfg : Srv.Cfg) (impl : Srv.Impl) (c : Srv.Conn) (t : Msg)
    (h : C04.WF c.fids) : C04.WF (Srv.step cfg impl c t).fst.fids :=
  (C04.step_valid cfg impl c t h).1

/-- what a connection does — including ending on a malformed frame — touches no other connection -/
theorem other_connections_untouched (cfg : Srv.Cfg) (impl : Srv.Impl) (conns : Nat → Srv.Conn) (i j : Nat) (t : Msg)
    (h : j ≠ i) : (fun n => if n = i then (Srv.step cfg impl (conns i) t).fst else conns n) j = conns j :=
  C04.conn_private cfg impl conns i j t h

/-- …and under concurrency (any interleaving of the regions of FidNew, FidGet, retain, IncRef,
    DecRef, destroy and Conn.close, requests overlapping at will, fid numbers reused, the client
    gone or not): the table only ever holds fid objects made for that number, every reference
    count is exactly the references that are owned, the file server is never told twice that a
    fid is destroyed, never while it is still setting the fid up, and never while a request
    holds the fid. -/
theorem any_interleaving_keeps_table_wellformed (es : List FidLife.FEv) (s : FidLife.FS)
    (h : FidLife.FS.init.run es = some s) :
    (∀ k o, s.pool k = some o → o < s.n ∧ (s.obj o).num = k) ∧
    (∀ o, o < s.n → (s.obj o).ref = ((s.obj o).holds : Int) + (if (s.obj o).tbl then 1 else 0)) ∧
    (∀ o, o < s.n → (s.obj o).nd ≤ 1) ∧
    (∀ o, o < s.n → (s.obj o).pending = true → 1 ≤ (s.obj o).holds → (s.obj o).nd = 0 ∧ (s.obj o).calls = 0) ∧
    (∀ o, o < s.n → 1 ≤ (s.obj o).nd → (s.obj o).holds = 0) :=
  ⟨fun k o hp => C04.table_entry_is_its_number es s h k o hp,
   fun o ho => C11.refcount_is_owners es s h o ho,
   fun o ho => C11.fid_destroyed_at_most_once es s h o ho,
   fun o ho hp hh => ⟨(C11.no_destroy_while_being_created es s h o ho hp hh).1,
                       (C11.no_destroy_while_being_created es s h o ho hp hh).2.1⟩,
   fun o ho hn => (C11.never_destroyed_under_a_request es s h o ho (Or.inr (Or.inr hn))).1⟩

end G9.C06
