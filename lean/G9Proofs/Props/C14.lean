/-
  C14 — File data read and written through client and Ufs is exact (model: G9.UfsLogic).  What
  `os.File.ReadAt/WriteAt` do is the assumption written in the model (`readAt`, `writeAt`); what go9p adds —
  clamping to iounit, the Readn/Written loops, the offset bookkeeping — is proved.
-/
import G9.UfsLogic
namespace G9.C14
open G9.Ufs

theorem readAt_length (file : Bytes) (off n : Nat) :
    (readAt file off n).length = min n (file.length - off) := by
  simp [readAt]

theorem readAt_add (file : Bytes) (off a b : Nat) :
    readAt file off (a + b) = readAt file off a ++ readAt file (off + a) b := by
  simp only [readAt, List.take_add, List.drop_drop]

theorem readAt_length_self (file : Bytes) (off n : Nat) :
    readAt file off (readAt file off n).length = readAt file off n := by
  rw [readAt_length]
  simp only [readAt, List.take_eq_take_iff, List.length_drop]
  omega

theorem readAt_then (file : Bytes) (off n k : Nat) :
    readAt file off n ++ readAt file (off + (readAt file off n).length) k =
      readAt file off ((readAt file off n).length + k) := by
  rw [readAt_add, readAt_length_self]

/-- one read: exactly the requested range of the file, cut at iounit and at end of file;
    at or beyond end of file nothing -/
theorem read_exact (file : Bytes) (io off cnt : Nat) :
    clntRead file io off cnt = (file.drop off).take (min cnt io) ∧
    (file.length ≤ off → clntRead file io off cnt = []) := by
  refine ⟨rfl, fun h => ?_⟩
  unfold clntRead readAt
  rw [List.drop_eq_nil_of_le h]; simp

/-- `Readn` returns exactly the requested range up to end of file — also when the range
    crosses the end — whatever the iounit; the loop terminates within `n + 1` rounds. -/
theorem readn_exact (file : Bytes) (io : Nat) (hio : 1 ≤ io) :
    ∀ (n off fuel : Nat), n < fuel → readn file io fuel off n = (file.drop off).take n := by
  intro n off fuel
  induction fuel generalizing n off with
  | zero => intro hf; omega
  | succ fuel ih =>
    intro hf
    cases n with
    | zero => simp [readn]
    | succ n =>
      have hk := readAt_length file off (min (n + 1) io)
      rw [readn, clntRead]
      show (if _ then _ else _) = readAt file off (n + 1)
      split
      · -- empty with a positive count: the offset is at or beyond the end of file
        exact (List.eq_nil_of_length_eq_zero (by rw [readAt_length]; omega)).symm
      · rw [ih _ _ (by omega)]
        show _ ++ readAt file _ _ = _
        rw [readAt_then]
        congr 1
        omega

/-- pieces a `Written` call sends: offsets and payloads of the successive Twrites -/
def pieces (io : Nat) : Nat → Nat → Bytes → List (Nat × Bytes)
  | 0, _, _ => []
  | _ + 1, _, [] => []
  | fuel + 1, off, d =>
    if (d.take io).length = 0 then []
    else (off, d.take io) :: pieces io fuel (off + (d.take io).length) (d.drop (d.take io).length)

/-- `Written` cuts the data into consecutive pieces of at most iounit bytes, each sent at the
    offset where the previous one ended, covering the data exactly once, in order. -/
theorem written_pieces (io : Nat) (hio : 1 ≤ io) :
    ∀ (n : Nat) (d : Bytes) (off fuel : Nat), d.length = n → n < fuel →
      ((pieces io fuel off d).map (·.2)).flatten = d ∧
      (∀ p ∈ pieces io fuel off d, p.2.length ≤ io ∧ 1 ≤ p.2.length) := by
  intro n d off fuel hd hf
  subst hd
  -- out of fuel; no data; an empty piece; a piece and the rest
  fun_induction pieces io fuel off d with
  | case1 => omega
  | case2 => simp
  | case3 fuel off d hne h0 =>
    rw [List.length_take] at h0
    have := List.length_pos_iff.2 hne
    omega
  | case4 fuel off d hne h0 ih =>
    have hl : (d.take io).length = min io d.length := List.length_take
    obtain ⟨h1, h2⟩ := ih (by rw [List.length_drop, hl]; omega)
    refine ⟨?_, List.forall_mem_cons.2 ⟨?_, h2⟩⟩
    · rw [List.map_cons, List.flatten_cons, h1, hl, List.take_eq_take_min, List.take_append_drop]
    · show (d.take io).length ≤ io ∧ 1 ≤ (d.take io).length
      omega

/-- `File.Read`/`File.Write` advance the offset by exactly the count returned (and a
    single read never returns more than asked) -/
theorem read_le_count (file : Bytes) (io off cnt : Nat) : (clntRead file io off cnt).length ≤ cnt := by
  rw [clntRead, readAt_length]; omega

/-- `File.Read` called repeatedly with any sequence of counts: each call returns the bytes at the
    file's current offset and advances the offset by what it returned -/
def fileReads (file : Bytes) (io : Nat) : Nat → List Nat → List Bytes
  | _, [] => []
  | off, c :: cs =>
    let b := clntRead file io off c
    b :: fileReads file io (off + b.length) cs

/-- …so the pieces are consecutive: joined, they are exactly the bytes of the file from the
    starting offset on, as many as were returned — nothing skipped, nothing repeated, nothing
    from elsewhere. -/
theorem sequential_reads_are_consecutive (file : Bytes) (io : Nat) (cs : List Nat) (off : Nat) :
    (fileReads file io off cs).flatten =
      readAt file off ((fileReads file io off cs).flatten).length := by
  induction cs generalizing off with
  | nil => simp [fileReads, readAt]
  | cons c cs ih =>
    simp only [fileReads, List.flatten_cons, List.length_append, clntRead]
    rw [← readAt_then]
    exact congrArg _ (ih _)

theorem writeAt_after (a rest d : Bytes) :
    writeAt (a ++ rest) a.length d = a ++ d ++ rest.drop d.length := by
  simp [writeAt]

/-- Writing consecutive pieces one after the other leaves the file exactly as one write of the
    whole data at the first offset would (any chunking, any iounit). -/
theorem chunked_writes_equal_one_write (file : Bytes) (off : Nat) (d1 d2 : Bytes) :
    writeAt (writeAt file off d1) (off + d1.length) d2 = writeAt file off (d1 ++ d2) := by
  have hlen : ((file ++ List.replicate (off - file.length) 0).take off).length = off := by
    rw [List.length_take, List.length_append, List.length_replicate]; omega
  have h := writeAt_after ((file ++ List.replicate (off - file.length) 0).take off ++ d1)
    (file.drop (off + d1.length)) d2
  rw [List.length_append, hlen] at h
  conv => lhs; arg 1; rw [writeAt]
  rw [h, writeAt]
  simp [Nat.add_assoc]

example : readn [1, 2, 3, 4, 5, 6, 7] 3 101 2 100 = [3, 4, 5, 6, 7] := by decide
example : (pieces 3 8 10 [1, 2, 3, 4, 5, 6, 7]).map (·.1) = [10, 13, 16] := by decide

end G9.C14
