/-
  C11 — A disconnect releases everything the connection held (models: G9.SrvLife for goroutines and queues,
  G9.FidLife for the fids).  After `close` nothing on the connection can block and nothing new is accepted or
  written; under every interleaving every fid object is reported destroyed exactly once.  That ConnClosed is
  reported once and that no goroutine or descriptor outlives the connection is observed by the correspondence.
-/
import G9Proofs.Lemmas.LifeInv
import G9Proofs.Lemmas.LifeProgress
import G9Proofs.Lemmas.FidCommute
namespace G9.C11
open G9.Life

/-- the connection is closed once: `close` is refused afterwards, in every later state -/
theorem closed_stays_closed (s s' : LS) (es : List Ev) (hc : s.closed = true) (h : s.run es = some s') :
    s'.closed = true ∧ s'.step .close = none ∧ s'.wire = s.wire ∧ s'.n = s.n :=
  have ⟨h1, h2, h3⟩ := run_inv (P := fun t => t.closed = true ∧ t.wire = s.wire ∧ t.n = s.n)
    (fun _ _ _ ⟨c, w, n⟩ hst => have ⟨c', w', n'⟩ := hst.closed c; ⟨c', w'.trans w, n'.trans n⟩)
    es s s' ⟨hc, rfl, rfl⟩ h
  ⟨h1, by simp [LS.step, h1], h2, h3⟩

/-- After the disconnect no call of Respond can get stuck: each of its steps is enabled
    without the writer, so every goroutine still replying ends. -/
theorem respond_never_stuck_after_close (s : LS) (hc : s.closed = true) (i : Nat) (it : Inst)
    (hit : s.insts[i]? = some it) (e : Ev) (he : evOf i it.pc = some e) : (s.step e).isSome = true := by
  rcases respond_progress s i it hit e he with h | ⟨_, h, _⟩
  · exact h
  · rw [hc] at h; cases h

/-- a reply finished after the disconnect is dropped, not queued -/
theorem reply_after_close_dropped (s : LS) (hc : s.closed = true) (i : Nat) (it : Inst)
    (hit : s.insts[i]? = some it) (hpc : it.pc = .queue) :
    s.step (.queue i) = some { s with insts := setInst s.insts i { it with pc := .unlink } } :=
  (Step.queueDrop i it hit hpc (by rw [hc, Bool.or_true])).to_step

/-- workers still executing at the disconnect run to their end as before -/
theorem worker_never_stuck_after_close (s : LS) (r : Nat) (hr : r < s.n) (e : Ev)
    (he : wevOf r (s.req r).wpc = some e) (hfl : (s.req r).wpc = .fl0 → (s.req r).oldtag ≠ none) :
    (s.step e).isSome = true :=
  worker_progress s r hr e he hfl

/-! ### non-vacuity: disconnect with one request in the implementation, answered afterwards -/
example : ((LS.init 0).run [.recv 5 none, .check 0, .dispatch 0, .close, .answer 0, .mark 0, .post 0, .queue 0,
    .unlink 0, .next 0, .flushes 0, .implReturn 0, .procEnd 0]).map
    (fun s => (s.wire, s.reqout, (s.req 0).wpc, s.closed)) = some ([], [], .ended, true) := by decide


section fids
open G9.FidLife

/-- At every point of every schedule, the file server has been told at most once that a fid
    object is destroyed. -/
theorem fid_destroyed_at_most_once (es : List FEv) (s : FS) (h : FS.init.run es = some s) (o : Nat)
    (ho : o < s.n) : (s.obj o).nd ≤ 1 := by
  have := ((inv_run es _ _ inv_init h).objs o ho).acct.2.1
  split at this <;> omega

/-- Once the disconnect has run to its end — Conn.close has visited its copy of the table, every
    request that was executing has released what it held, every DecRef and destroy() has
    returned — every fid object ever created on the connection, valid at the disconnect, being
    created at the disconnect or created afterwards by a request still running, has been reported
    destroyed exactly once. -/
theorem disconnect_destroys_every_fid (es : List FEv) (s : FS) (h : FS.init.run es = some s)
    (hq : s.quiescent) (o : Nat) (ho : o < s.n) : (s.obj o).nd = 1 := by
  have h0 := (inv_run es _ _ inv_init h).objs o ho
  obtain ⟨hsnap, hall⟩ := hq
  obtain ⟨q1, q2, q3, q4⟩ := hall o ho
  have ha := h0.acct
  -- Conn.close has visited its whole copy and no request holds the fid (quiescent): the count is zero, and
  -- `Acct` then wants the fid `destroyed`, nothing being under way or pending.
  have ht : ¬ (s.obj o).tbl = true := fun hc => by cases h0.tblSnap hc [] hsnap
  by_cases hd : (s.obj o).destroyed = true <;>
    simp only [Acct, ht, hd, Bool.false_eq_true, if_true, if_false] at ha <;> omega

/-- The file server is never told that a fid is destroyed while a request holds it: from the
    moment destroy() has marked it (and ever after — every later state is reachable too) no
    request owns a reference to it, and `FidGet` gives none out (`dead_fid_is_not_handed_out`).
    In particular a file the Unix file server opens for a request is never opened on a fid whose
    FidDestroy has already run. -/
theorem never_destroyed_under_a_request (es : List FEv) (s : FS) (h : FS.init.run es = some s) (o : Nat)
    (ho : o < s.n) (hd : (s.obj o).destroyed = true ∨ 1 ≤ (s.obj o).calls ∨ 1 ≤ (s.obj o).nd) :
    (s.obj o).holds = 0 ∧ (s.obj o).tbl = false ∧ (s.obj o).ref = 0 := by
  have h0 := (inv_run es _ _ inv_init h).objs o ho
  have hz : (s.obj o).ref ≤ 0 := Int.not_lt.mp fun hr => by
    obtain ⟨c, _, _, _⟩ := h0.acct.live hr
    rcases hd with d | d | d
    · rw [c] at d; cases d
    · omega
    · omega
  exact h0.acct.zero hz

/-- a fid whose last reference is gone is not handed out again: `FidGet` leaves it alone -/
theorem dead_fid_is_not_handed_out (s : FS) (o : Nat) (ho : o < s.n) (hr : (s.obj o).ref ≤ 0) :
    s.step (.get o) = some s := by
  simp [FS.step, ho, hr]

/-- A fid that is still being created (its Tattach, Tauth or Twalk has not finished) is never
    reported destroyed under the implementation's feet, disconnect or not, and stays in the table. -/
theorem no_destroy_while_being_created (es : List FEv) (s : FS) (h : FS.init.run es = some s) (o : Nat)
    (ho : o < s.n) (hp : (s.obj o).pending = true) (hh : 1 ≤ (s.obj o).holds) :
    (s.obj o).nd = 0 ∧ (s.obj o).calls = 0 ∧ (s.obj o).destroyed = false ∧ s.inpool o := by
  have h0 := (inv_run es _ _ inv_init h).objs o ho
  obtain ⟨c, d, e, _⟩ := h0.acct.live (h0.acct.pos (.inr hh))
  exact ⟨d, e, c, h0.pendPool hp hh⟩

/-- A valid fid (the table holds its reference) has not been reported destroyed, and is in the
    table as long as the connection has not been torn down. -/
theorem valid_fid_alive_while_open (es : List FEv) (s : FS) (h : FS.init.run es = some s) (o : Nat)
    (ho : o < s.n) (ht : (s.obj o).tbl = true) :
    (s.obj o).nd = 0 ∧ (s.obj o).destroyed = false ∧ (s.snap = none → s.inpool o) := by
  have h0 := (inv_run es _ _ inv_init h).objs o ho
  obtain ⟨c, d, _⟩ := h0.acct.live (h0.acct.pos (.inl ht))
  exact ⟨d, c, h0.tblOpen ht⟩

/-- the reference count is what the owners account for: requests' references plus the table's -/
theorem refcount_is_owners (es : List FEv) (s : FS) (h : FS.init.run es = some s) (o : Nat) (ho : o < s.n) :
    (s.obj o).ref = ((s.obj o).holds : Int) + (if (s.obj o).tbl then 1 else 0) :=
  ((inv_run es _ _ inv_init h).objs o ho).acct.1

/-- After the disconnect the tear-down of the fids cannot get stuck: in every state in which
    `conn.done` is closed and something is still in flight, some region is enabled — Conn.close
    can copy the table or visit the next fid, a request can release what it holds, a DecRef or a
    destroy() can take its next step.  (With `disconnect_destroys_every_fid`: the only state in
    which nothing remains to be done is the one in which every fid has been reported destroyed.) -/
theorem fid_teardown_never_stuck (s : FS) (hc : s.closed = true) (hnq : ¬ s.quiescent) :
    ∃ e s', s.step e = some s' := by
  cases hs : s.snap with
  | none =>
    refine ⟨.snapshot ((List.range s.n).filter (fun o => decide (s.inpool o))),
      { s with snap := some ((List.range s.n).filter (fun o => decide (s.inpool o))) }, ?_⟩
    simp only [FS.step]
    rw [if_pos]
    refine ⟨hc, hs, ?_, ?_, ?_⟩
    · exact List.Pairwise.filter _ List.nodup_range
    · intro o ho
      simp only [List.mem_filter, List.mem_range, decide_eq_true_eq] at ho
      exact ho
    · intro o ho hin
      simp only [List.mem_filter, List.mem_range, decide_eq_true_eq]
      exact ⟨ho, hin⟩
  | some l =>
    cases l with
    | cons o rest =>
      refine ⟨.visit, ?_⟩
      simp only [FS.step, hs]
      split
      · exact ⟨_, rfl⟩
      · exact ⟨_, rfl⟩
    | nil =>
      have hex : ∃ o, o < s.n ∧ ¬ ((s.obj o).holds = 0 ∧ (s.obj o).dyA = 0 ∧ (s.obj o).dyB = 0 ∧ (s.obj o).calls = 0) :=
        Classical.byContradiction fun hne => hnq ⟨hs, fun o ho => Classical.byContradiction fun hn => hne ⟨o, ho, hn⟩⟩
      obtain ⟨o, ho, hne⟩ := hex
      by_cases h1 : 1 ≤ (s.obj o).holds
      · exact ⟨.dec o, by simp [FS.step, ho, h1]⟩
      by_cases h2 : 1 ≤ (s.obj o).dyA
      · refine ⟨.unpool o, ?_⟩
        simp only [FS.step]
        rw [if_pos ⟨ho, h2⟩]
        split
        · exact ⟨_, rfl⟩
        · exact ⟨_, rfl⟩
      by_cases h3 : 1 ≤ (s.obj o).dyB
      · refine ⟨.dstr o, ?_⟩
        simp only [FS.step]
        rw [if_pos ⟨ho, h3⟩]
        split
        · exact ⟨_, rfl⟩
        · exact ⟨_, rfl⟩
      by_cases h4 : 1 ≤ (s.obj o).calls
      · exact ⟨.call o, by simp [FS.step, ho, h4]⟩
      exfalso
      apply hne
      omega

/-- What lets the acceptor replay a log in which a `retain` that read `conn.done` open appears
    *after* regions that ran later (retain runs under the fid's lock, Conn.close's copy of the
    table under the connection's; the log order between them means nothing): if none of the events
    logged in between concerns the fid — in particular Conn.close has not visited it — the state
    reached by replaying the retain late is the state of the schedule in which it ran first. -/
theorem retain_logged_late_is_a_schedule (s s' : FS) (es : List FEv) (o : Nat)
    (hopen : s.closed = false) (ho : o < s.n) (hp : (s.obj o).pending = true) (hh : 1 ≤ (s.obj o).holds)
    (hind : ∀ (pre : List FEv) (e : FEv) (post : List FEv) (t : FS), es = pre ++ e :: post → s.run pre = some t →
      target t e ≠ some o)
    (hs : s.run es = some s') : s.run (.retain o :: es) = some (retainOpen s' o) := by
  have h1 : s.step (.retain o) = some (retainOpen s o) := by
    simp [FS.step, ho, hp, hh, hopen, retainOpen]
  simp only [FS.run, h1, Option.bind_some]
  exact retainOpen_commutes_run o es s s' ho hind hs

/-! non-vacuity: a fid is created and retained; a request is using it when the client disconnects;
    Conn.close takes the table's reference away, the request's release afterwards is the last one
    and destroys the fid; the end state is quiescent. -/
def exSched : List FEv :=
  [.new 5, .retain 0, .dec 0, .look 5 (some 0), .get 0, .closeDone, .snapshot [0], .visit, .dec 0,
   .dec 0, .unpool 0, .dstr 0, .call 0]

example : (FS.init.run exSched).map (fun s => ((s.obj 0).nd, (s.obj 0).ref, (s.obj 0).holds, s.snap, s.n)) =
    some (1, 0, 0, some [], 1) := by decide

instance (s : FS) : Decidable s.quiescent := by unfold FS.quiescent; infer_instance

example : (FS.init.run exSched).all (fun s => decide s.quiescent) = true := by decide

/-! ### the code before three repairs (schedules replayed on the real code: witness/)

    F-29: `retain` tested `conn.done` before it took the fid lock (`retainStale`).  F-30: `DecRef` deleted the
    table entry by number (`unpoolByNumber`), and `FidGet` handed out a fid whose last reference was gone
    (`getDying`).  F-31: `Conn.close` called destroy() on every fid of its copy, in use or not (`visitDestroy`). -/

inductive OldEv where
  | ev (e : FEv)
  | retainStale (o : Nat)
  | getDying (o : Nat)
  | unpoolByNumber (o : Nat)
  | visitDestroy

def stepOld (s : FS) : OldEv → Option FS
  | .ev e => s.step e
  | .retainStale o =>
    let x := s.obj o
    if o < s.n ∧ x.pending = true ∧ 1 ≤ x.holds then
      some (setO s o { x with ref := x.ref + 1, tbl := true, pending := false })
    else none
  | .getDying o =>
    let x := s.obj o
    if o < s.n ∧ x.pending = false then some (setO s o { x with ref := x.ref + 1, holds := x.holds + 1 }) else none
  | .unpoolByNumber o =>
    let x := s.obj o
    if o < s.n ∧ 1 ≤ x.dyA then
      some { (setO s o { x with dyA := x.dyA - 1, dyB := x.dyB + 1 }) with pool := updP s.pool x.num none }
    else none
  | .visitDestroy =>
    match s.snap with
    | some (o :: rest) =>
      let x := s.obj o
      if x.pending then some { s with snap := some rest }
      else some { (setO s o { x with dyB := x.dyB + 1 }) with snap := some rest }
    | _ => none

def runOld (s : FS) : List OldEv → Option FS
  | [] => some s
  | e :: es => (stepOld s e).bind (fun s' => runOld s' es)

/-- F-29: the client disconnects between retain's test and its increment -/
theorem stale_retain_leaks_a_fid :
    (runOld FS.init [.ev (.new 5), .ev .closeDone, .ev (.snapshot [0]), .ev .visit, .retainStale 0,
      .ev (.dec 0)]).map (fun s => (decide s.quiescent, (s.obj 0).nd, (s.obj 0).destroyed)) =
    some (true, 0, false) := by decide

/-- F-30: a request takes a reference on a fid whose Tclunk has dropped the last one; its own
    release then deletes the fid the client has made under the number since (object 1): the
    lookup of number 5 finds nothing although fid 5 is valid, and at the end of the disconnect
    object 1 has never been reported destroyed -/
theorem unpool_by_number_loses_a_valid_fid :
    (runOld FS.init [.ev (.new 5), .ev (.retain 0), .ev (.dec 0),
      .ev (.look 5 (some 0)), .ev (.get 0), .ev (.release 0), .ev (.dec 0), .ev (.dec 0),
      .ev (.look 5 (some 0)), .getDying 0, .ev (.dec 0),
      .unpoolByNumber 0, .ev (.dstr 0), .ev (.call 0),
      .ev (.new 5), .ev (.retain 1), .ev (.dec 1),
      .unpoolByNumber 0, .ev (.dstr 0),
      .ev (.look 5 none),
      .ev .closeDone, .ev (.snapshot []), ]).map
      (fun s => (decide s.quiescent, (s.obj 1).tbl, s.pool 5, (s.obj 1).nd, (s.obj 0).nd)) =
    some (true, true, none, 0, 1) := by decide

/-- F-31: a request is using a fid when the client disconnects: Conn.close tells the file server
    that the fid is destroyed while the request still holds it (and whatever the request makes
    the file server open afterwards is opened on a destroyed fid) -/
theorem close_destroys_under_a_request :
    (runOld FS.init [.ev (.new 5), .ev (.retain 0), .ev (.dec 0), .ev (.look 5 (some 0)), .ev (.get 0),
      .ev .closeDone, .ev (.snapshot [0]), .visitDestroy, .ev (.dstr 0), .ev (.call 0)]).map
      (fun s => ((s.obj 0).nd, (s.obj 0).holds)) = some (1, 1) := by decide

end fids

end G9.C11
