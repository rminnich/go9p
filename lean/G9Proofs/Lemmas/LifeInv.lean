/-
  The invariant of every schedule, `Inv`: stored request ids belong to received requests; per request at most
  one reply is under way or out, and at most one call of Respond stands between the test-and-set and the tag
  table.  Then what the two ordering theorems share: `NoFuture`, and the order `out` in which replies are queued.
-/
import G9Proofs.Lemmas.Life
namespace G9.Life

/-- the request a flush worker is aiming at, once it has looked it up -/
def tgtOf : WPC → Option Nat
  | .fl1 (some t) => some t
  | .fl2 t _ => some t
  | _ => none

/-- request ids in flush chains, cursors, tag tables and workers' targets belong to received requests -/
structure Bd (s : LS) : Prop where
  fq : ∀ r f, (s.req r).flushreq = some f → f < s.n
  fls : ∀ it ∈ s.insts, ∀ f, it.cur = some f → f < s.n
  ch : ∀ tag, ∀ r ∈ s.chain tag, r < s.n
  tgt : ∀ f t, tgtOf (s.req f).wpc = some t → t < s.n

theorem fls_same (s : LS) (h : Bd s) : ∀ it ∈ s.insts, ∀ f, it.cur = some f → f < s.n := h.fls

def Req.ids (N : Nat) (q : Req) : Prop := (∀ f, q.flushreq = some f → f < N) ∧ ∀ t, tgtOf q.wpc = some t → t < N

def Inst.ids (N : Nat) (it : Inst) : Prop := it.rid < N ∧ ∀ f, it.cur = some f → f < N

/-- `Bd`, and the same of calls of Respond, reply queue and wire; `N` is a parameter so that receiving a
    request is one weakening. -/
structure Ids (N : Nat) (s : LS) : Prop where
  req : ∀ r, (s.req r).ids N
  inst : ∀ it ∈ s.insts, it.ids N
  ch : ∀ tag, ∀ r ∈ s.chain tag, r < N
  ro : ∀ r ∈ s.reqout, r < N
  wi : ∀ r ∈ s.wire, r < N

theorem Ids.bd {s : LS} (h : Ids s.n s) : Bd s :=
  ⟨fun r => (h.req r).1, fun it hit => (h.inst it hit).2, h.ch, fun f => (h.req f).2⟩

theorem Ids.rid {s : LS} (h : Ids s.n s) : ∀ it ∈ s.insts, it.rid < s.n := fun it hit => (h.inst it hit).1

theorem Ids.mono {N M : Nat} {s : LS} (h : Ids N s) (hN : N ≤ M) : Ids M s where
  req r := ⟨fun f hf => Nat.lt_of_lt_of_le ((h.req r).1 f hf) hN, fun t ht => Nat.lt_of_lt_of_le ((h.req r).2 t ht) hN⟩
  inst it hit := ⟨Nat.lt_of_lt_of_le (h.inst it hit).1 hN, fun f hf => Nat.lt_of_lt_of_le ((h.inst it hit).2 f hf) hN⟩
  ch tag r hr := Nat.lt_of_lt_of_le (h.ch tag r hr) hN
  ro r hr := Nat.lt_of_lt_of_le (h.ro r hr) hN
  wi r hr := Nat.lt_of_lt_of_le (h.wi r hr) hN

theorem cutAfter_subset {m : Nat} {l : List Nat} : ∀ r ∈ cutAfter m l, r ∈ l := by
  intro r hr
  unfold cutAfter at hr
  split at hr
  · rename_i hm
    rcases List.mem_append.mp hr with h1 | h1
    · exact (List.takeWhile_sublist _).subset h1
    · rw [List.mem_singleton.1 h1]; exact hm
  · exact hr

/-- Each arm names the fields the step writes; what it stores there was stored somewhere before. -/
theorem Ids.step {s s' : LS} {e : Ev} (h : Ids s.n s) (hst : Step s e s') : Ids s'.n s' := by
  -- a worker moves on to where it aims at nothing
  have moved : ∀ {r : Nat} {q : Req}, q.flushreq = (s.req r).flushreq → tgtOf q.wpc = none →
      ∀ x, (upd s.req r q x).ids s.n := fun hf hw x =>
    upd_at (Req.ids _) (fun hq => ⟨hf ▸ hq.1, fun t ht => by rw [hw] at ht; cases ht⟩) (h.req x)
  cases hst with
  | recv tag ot hc =>
    have h1 := h.mono (Nat.le_succ s.n)
    refine { h1 with
      req := fun x => upd_at (Req.ids _) (fun _ => ⟨nofun, fun t ht => by split at ht <;> cases ht⟩) ?_
      ch := forall_updL h1.ch (List.forall_mem_cons.2 ⟨Nat.lt_succ_self _, h1.ch tag⟩) tag }
    rw [linkPrev_eq]; exact h1.req x
  | check r | dispatchOp r | dispatchFl r | implReturn r | procEnd r | lookupNone r | actOp r =>
    exact { h with req := moved rfl rfl }
  | selfRespond r hr | actNone r hr => exact { h with req := moved rfl rfl, inst := forall_snoc h.inst ⟨hr, nofun⟩ }
  | implFlush r hr =>
    exact { h with req := fun x => upd_at (Req.ids _) id (h.req x), inst := forall_snoc h.inst ⟨hr, nofun⟩ }
  | answer r hr => exact { h with inst := forall_snoc h.inst ⟨hr, nofun⟩ }
  | actCancel f hf t hw =>
    exact { h with req := moved rfl rfl, inst := forall_snoc h.inst ⟨(h.req f).2 t (by rw [hw]; rfl), nofun⟩ }
  | lookupSome f hf hw ot ho t hl =>
    have ht : t < s.n := h.ch ot t (List.mem_of_mem_head? (lookupTarget_some hl).1)
    refine { h with req := fun x => upd_at (Req.ids _) ?_ (upd_at (Req.ids _) ?_ (upd_at (Req.ids _) ?_ (h.req x))) }
    · exact fun hq => ⟨hq.1, fun x hx => by cases hx; exact ht⟩
    · exact fun hq => ⟨fun x hx => by cases hx; exact hf, hq.2⟩
    · exact fun hq => ⟨(h.req t).1, hq.2⟩
  | flushMark f hf t hw =>
    have ht : t < s.n := (h.req f).2 t (by rw [hw]; rfl)
    refine { h with req := fun x => upd_at (Req.ids _) ?_ (upd_at (Req.ids _) id (h.req x)) }
    exact fun hq => ⟨hq.1, fun x hx => by cases hx; exact ht⟩
  | markLost i it hit | markWon i it hit =>
    exact { h with req := fun x => upd_at (Req.ids _) id (h.req x), inst := forall_setInst h.inst hit id }
  | post i it hit | queueDrop i it hit | nextNone i it hit | flushesEnd i it hit =>
    exact { h with inst := forall_setInst h.inst hit id }
  | queuePush i it hit =>
    exact { h with inst := forall_setInst h.inst hit id
                   ro := forall_snoc h.ro (h.inst it (List.mem_of_getElem? hit)).1 }
  | nextStart i it hit hpc m => exact { h with req := moved rfl rfl, inst := forall_setInst h.inst hit id }
  | unlinkMid i it hit hpc od =>
    exact { h with req := fun x => upd_at (Req.ids _) id (h.req x)
                   inst := forall_setInst h.inst hit fun hi => ⟨hi.1, (h.req it.rid).1⟩
                   ch := forall_updL h.ch (fun r hr => h.ch _ r (List.mem_of_mem_erase hr)) _ }
  | unlinkLast i it hit =>
    exact { h with inst := forall_setInst h.inst hit fun hi => ⟨hi.1, (h.req it.rid).1⟩
                   ch := forall_updL h.ch (fun _ hr => absurd hr List.not_mem_nil) _ }
  | unlinkNext i it hit | unlinkRestart i it hit =>
    exact { h with inst := forall_setInst h.inst hit fun hi => ⟨hi.1, nofun⟩
                   ch := forall_updL h.ch (fun r hr => h.ch _ r (cutAfter_subset r hr)) _ }
  | unlinkMove i it hit hpc hod m hp fr hfr =>
    exact { h with req := fun x => upd_at (Req.ids _)
                     (fun hq => ⟨fun x hx => by cases hx; exact (h.req it.rid).1 fr hfr, hq.2⟩) (h.req x)
                   inst := forall_setInst h.inst hit fun hi => ⟨hi.1, nofun⟩
                   ch := forall_updL h.ch (fun r hr => h.ch _ r (cutAfter_subset r hr)) _ }
  | flushesAdv i it hit hpc f => exact { h with inst := forall_setInst h.inst hit fun hi => ⟨hi.1, (h.req f).1⟩ }
  | flushesCall i it hit hpc f hcur =>
    have hf : f < s.n := (h.inst it (List.mem_of_getElem? hit)).2 f hcur
    exact { h with inst := forall_setInst (forall_snoc h.inst (v := { rid := f }) ⟨hf, nofun⟩) (getElem?_snoc hit _) id }
  | send r rest hro =>
    exact { h with ro := fun x hx => h.ro x (hro ▸ List.mem_cons_of_mem r hx)
                   wi := forall_snoc h.wi (h.ro r (hro ▸ List.mem_cons_self)) }
  | close => exact { h with }   -- not `h` itself: `Ids _ s'` is about another state, with the same fields

/-- At most one reply to `r` is under way or out (a call between its test-and-set and the queue, a reply
    queued or written), and then `r` is marked answered. -/
def Once (s : LS) : Prop :=
  ∀ r, winners s r + sent s r ≤ 1 ∧ (1 ≤ winners s r + sent s r → (s.req r).rs = true)

theorem Ids.lt_of_counted {s : LS} (h : Ids s.n s) {r : Nat} (h1 : 1 ≤ winners s r + sent s r) : r < s.n := by
  rcases Nat.eq_zero_or_pos (winners s r) with hw | hw
  · have hm : r ∈ s.reqout ++ s.wire := List.count_pos_iff.1 (by unfold sent at h1; omega)
    exact (List.mem_append.1 hm).elim (h.ro r) (h.wi r)
  · obtain ⟨it, hit, hwin⟩ := List.countP_pos_iff.1 hw
    exact (win_iff.mp hwin).1 ▸ h.rid it hit

theorem sent_push (ro w : List Nat) (x r : Nat) :
    (ro ++ [x] ++ w).count r = (ro ++ w).count r + (if x = r then 1 else 0) := by
  simp only [List.count_append, List.count_cons, List.count_nil, beq_iff_eq]
  split <;> omega

theorem sent_move (rest w : List Nat) (x r : Nat) :
    (rest ++ (w ++ [x])).count r = (x :: rest ++ w).count r := by
  simp only [List.count_append, List.count_cons, List.count_nil, List.cons_append, beq_iff_eq]
  split <;> omega

theorem Step.once {s s' : LS} {e : Ev} (hst : Step s e s') (hR : Ids s.n s) (h : Once s) : Once s' := by
  intro r
  have hrs := fun h1 => (hst.keeps (t := r) (Nat.ne_of_lt (hR.lt_of_counted h1))).rs
  have calls : sent s' r = sent s r →
      winners s' r + sent s' r ≤ 1 ∧ (1 ≤ winners s' r + sent s' r → (s'.req r).rs = true) := fun hs => by
    rw [hs]
    -- `cnt_step` for the winners, with `sent s r` added on both sides
    refine once_next (h r) hrs
      ((cnt_step win_stretch hst r).imp (Nat.add_le_add_right · _) fun ⟨h1, h2, h3⟩ => ⟨h1, h2, ?_⟩)
    rw [Nat.add_right_comm]; exact Nat.add_le_add_right h3 _
  cases hst with
  | queuePush i it hit hpc =>
    -- the winner's reply goes from the call to the queue
    refine once_next (h r) hrs (.inl ?_)
    have hc := countP_set (win r) s.insts i it { it with pc := .unlink } hit
    show (s.insts.set i _).countP (win r) + (s.reqout ++ [it.rid] ++ s.wire).count r ≤
      s.insts.countP (win r) + (s.reqout ++ s.wire).count r
    rw [sent_push]
    by_cases hri : it.rid = r
    · subst hri; simp [win, hpc] at hc; rw [if_pos rfl]; omega
    · simp [win, hri] at hc; rw [if_neg hri]; omega
  | send r0 rest hro =>
    -- from the queue to the wire: as many as before
    exact calls ((sent_move rest s.wire r0 r).trans (by rw [sent, hro]))
  | _ => exact calls rfl

/-- of every schedule; `FI` (tame) and `PI` (plain) are proved on top of it -/
structure Inv (s : LS) : Prop where
  ids : Ids s.n s
  once : Once s
  /-- at most one call per request between the test-and-set and the tag table -/
  flight : OnceIn inFlight s

theorem inv_init (cap : Nat) : Inv (LS.init cap) :=
  ⟨by constructor <;> simp [LS.init, Req.ids, Inst.ids, tgtOf], fun r => by simp [winners, sent, LS.init], onceIn_init _ cap⟩

theorem Step.inv {s s' : LS} {e : Ev} (hst : Step s e s') (hI : Inv s) : Inv s' :=
  ⟨hI.ids.step hst, hst.once hI.ids hI.once, onceIn_step inFlight_stretch hI.ids.rid hI.flight hst⟩

theorem inv_run (es : List Ev) (s s' : LS) : Inv s → s.run es = some s' → Inv s' :=
  run_inv (fun _ _ _ h hst => hst.inv h) es s s'

def Req.noRunOK (q : Req) : Prop := q.noRun = true → q.fl = true ∧ q.wpc ≠ .checked false

/-- a request cancelled before it started keeps its flush bit, so the check sends it to `checked true`
    and it is never dispatched -/
def NR (s : LS) : Prop := ∀ r, (s.req r).noRunOK

theorem nr_init (cap : Nat) : NR (LS.init cap) := fun _ => nofun

theorem Step.nr {s s' : LS} {e : Ev} (hst : Step s e s') (h : NR s) : NR s' := by
  intro x
  cases hst with
  | recv =>
    refine upd_at Req.noRunOK (fun _ => nofun) ?_
    rw [linkPrev_eq]; exact h x
  | check r hr hw =>
    refine upd_at Req.noRunOK (fun hq h1 => ⟨(hq h1).1, ?_⟩) (h x)
    rw [(hq h1).1]; nofun
  | dispatchOp | dispatchFl | selfRespond | implReturn | procEnd | lookupNone | actNone | actCancel | actOp | nextStart =>
    exact upd_at Req.noRunOK (fun hq h1 => ⟨(hq h1).1, nofun⟩) (h x)
  | implFlush => exact upd_at Req.noRunOK (fun hq h1 => ⟨rfl, (hq h1).2⟩) (h x)
  | markLost | markWon | unlinkMid | unlinkMove => exact upd_at Req.noRunOK id (h x)
  | lookupSome =>
    exact upd_at Req.noRunOK (fun hq h1 => ⟨(hq h1).1, nofun⟩) (upd_at Req.noRunOK id (upd_at Req.noRunOK id (h x)))
  | flushMark f hf t hw =>
    refine upd_at Req.noRunOK (fun hq h1 => ⟨(hq h1).1, nofun⟩) (upd_at Req.noRunOK ?_ (h x))
    -- the target: marked now only if cancelled while `queued` or at `start`
    intro hq h1
    rcases Bool.or_eq_true _ _ ▸ h1 with h2 | h2
    · exact ⟨by rw [(hq h2).1]; split <;> rfl, (hq h2).2⟩
    · obtain ⟨hc, he⟩ := Bool.and_eq_true _ _ ▸ h2
      refine ⟨if_pos hc, ?_⟩
      rcases Bool.or_eq_true _ _ ▸ he with he | he <;> rw [of_decide_eq_true he] <;> nofun
  | _ => exact h x

theorem Step.wire {s s' : LS} {e : Ev} (hst : Step s e s') : ∃ l, s'.wire = s.wire ++ l := by
  cases hst with
  | send r => exact ⟨[r], rfl⟩
  | _ => exact ⟨[], (List.append_nil _).symm⟩

theorem Step.closed {s s' : LS} {e : Ev} (hst : Step s e s') (hc : s.closed = true) :
    s'.closed = true ∧ s'.wire = s.wire ∧ s'.n = s.n := by
  cases hst with
  | recv _ _ h | send _ _ _ h | close h => exact absurd hc h
  | _ => exact ⟨hc, rfl, rfl⟩

theorem Step.implLog {s s' : LS} {e : Ev} (hs : Step s e s') :
    s'.implLog = s.implLog ∨ ∃ x, (s.req x).wpc = .checked false ∧ s'.implLog = s.implLog ++ [x] := by
  cases hs with
  | dispatchOp r hr hw ho => exact Or.inr ⟨r, hw, rfl⟩
  | _ => exact Or.inl rfl

/-- replies in the order in which they were queued: what is on the wire, then what waits for the writer -/
def out (s : LS) : List Nat := s.wire ++ s.reqout

theorem out_congr (s s' : LS) (h1 : s'.wire = s.wire) (h2 : s'.reqout = s.reqout) : out s' = out s := by
  unfold out; rw [h1, h2]

def Before (l : List Nat) (a b : Nat) : Prop := ∃ x y z, l = x ++ (a :: (y ++ (b :: z)))

theorem before_append {l : List Nat} {a b : Nat} (h : Before l a b) (x : Nat) : Before (l ++ [x]) a b := by
  obtain ⟨p, q, r, hl⟩ := h
  exact ⟨p, q, r ++ [x], by rw [hl]; simp⟩

theorem before_last {l : List Nat} {a : Nat} (h : a ∈ l) (x : Nat) : Before (l ++ [x]) a x := by
  obtain ⟨p, q, hl⟩ := List.append_of_mem h
  exact ⟨p, q, [], by rw [hl]; simp⟩

/-- appending `b` keeps an order `R` under which nothing already there has to come after `b` -/
theorem before_snoc {R : Nat → Nat → Prop} {l : List Nat} {b : Nat}
    (h : ∀ a c, R a c → c ∈ l → a ∈ l → Before l a c) (hb : ∀ c, R b c → c ∉ l ∧ c ≠ b) (a c : Nat) (hR : R a c)
    (hc : c ∈ l ++ [b]) (ha : a ∈ l ++ [b]) : Before (l ++ [b]) a c := by
  rw [List.mem_append, List.mem_singleton] at hc ha
  rcases ha with ha | rfl
  · rcases hc with hc | rfl
    · exact before_append (h a c hR hc ha) _
    · exact before_last ha _
  · exact (hc.elim (hb c hR).1 (hb c hR).2).elim

theorem rs_of_out {s : LS} (hO : Once s) {f : Nat} (hf : f ∈ out s) : (s.req f).rs = true :=
  have : 0 < sent s f := List.count_pos_iff.mpr (List.mem_append.mpr (List.mem_append.mp hf).symm)
  (hO f).2 (Nat.le_trans this (Nat.le_add_left _ _))

/-- nothing of `t` can be queued any more: it is marked answered and no call of Respond on it
    stands between its test-and-set and the queue -/
def NoFuture (s : LS) (t : Nat) : Prop := (s.req t).rs = true ∧ winners s t = 0

/-- as `NoFuture`, for the stretch up to the tag table -/
def Gone (s : LS) (a : Nat) : Prop := (s.req a).rs = true ∧ s.insts.countP (onPc inFlight a) = 0

theorem gone_nf {s : LS} {a : Nat} (h : Gone s a) : NoFuture s a :=
  -- a winner is in flight: no more winners than calls in flight
  ⟨h.1, Nat.le_zero.mp (Nat.le_trans (List.countP_mono_left fun _ _ => win_inFlight) (Nat.le_of_eq h.2))⟩

/-- NoFuture is stable: `rs` never falls, and a winner needs `rs` clear -/
theorem nf_step {s s' : LS} {e : Ev} (hs : Step s e s') (t : Nat) (ht : t < s.n) (h : NoFuture s t) : NoFuture s' t :=
  cnt_zero_step win_stretch hs (Nat.ne_of_lt ht) h

theorem gone_step {s s' : LS} {e : Ev} (hs : Step s e s') (a : Nat) (ha : a < s.n) (h : Gone s a) : Gone s' a :=
  cnt_zero_step inFlight_stretch hs (Nat.ne_of_lt ha) h

theorem out_step {s s' : LS} {e : Ev} (hs : Step s e s') {t : Nat} (h : NoFuture s t) (hm : t ∈ out s') : t ∈ out s := by
  cases hs with
  | queuePush i it hit hpc hd hcap =>
    have hm : t ∈ s.wire ++ (s.reqout ++ [it.rid]) := hm
    rw [← List.append_assoc, List.mem_append, List.mem_singleton] at hm
    refine hm.resolve_right fun he => Nat.ne_of_gt ?_ h.2
    exact List.countP_pos_iff.mpr ⟨it, List.mem_of_getElem? hit, by simp [win, hpc, he]⟩
  | send r rest hro hc =>
    have hm : t ∈ (s.wire ++ [r]) ++ rest := hm
    rw [List.append_assoc] at hm
    unfold out; rw [hro]; exact hm
  | _ => exact hm

theorem out_run_nf {t : Nat} (es : List Ev) (s s' : LS) (ht : t < s.n) (h : NoFuture s t) (hno : t ∉ out s)
    (hr : s.run es = some s') : t ∉ out s' :=
  (run_inv (P := fun s => t < s.n ∧ NoFuture s t ∧ t ∉ out s)
    (fun _ _ _ ⟨kt, knf, kno⟩ hs =>
      ⟨Nat.lt_of_lt_of_le kt hs.n_le, nf_step hs t kt knf, fun hm => kno (out_step hs knf hm)⟩)
    es s s' ⟨ht, h, hno⟩ hr).2.2

end G9.Life
