/-
  Reply before Rflush, for tame schedules.  The invariant `FI` says that Respond is called on a Tflush that has
  found a target `t` only once nothing of `t` will be queued any more (`NoFuture t`, which no step takes back):
  so when the Rflush is queued, the reply to `t` is queued already or never will be.
-/
import G9Proofs.Lemmas.LifeInv
namespace G9.Life

def isFl (s : LS) (r : Nat) : Prop := (s.req r).oldtag ≠ none

def lkOK : WPC → Option Nat → Prop
  | .fl1 (some t), l => l = some t
  | .fl2 t _, l => l = some t
  | .tail, _ | .ended, _ => True
  | _, l => l = none

/-- the worker is through with `srv.flush` (or with the operation) -/
def flDone : WPC → Prop
  | .tail | .ended => True
  | _ => False

/-- Respond may be called on `f`: a Tflush whose lookup found nothing is through with `srv.flush`, one
    whose lookup found `t` comes after everything of `t` -/
def Ready (s : LS) (f : Nat) : Prop :=
  (isFl s f → (s.req f).looked = none → flDone (s.req f).wpc) ∧ ∀ t, (s.req f).looked = some t → NoFuture s t

structure CallOK (s : LS) (it : Inst) : Prop where
  rdy : Ready s it.rid
  -- the loop over the flush chain stands at a Tflush whose target has no future
  cur : ∀ f, it.cur = some f → ∃ t, (s.req f).looked = some t ∧ NoFuture s t

structure FI (s : LS) : Prop where
  -- the ghost `looked` agrees with the worker's program counter
  lk : ∀ f, lkOK (s.req f).wpc (s.req f).looked
  -- a target was found by a Tflush, is none itself (tame), and is received
  lkt : ∀ f t, (s.req f).looked = some t → isFl s f ∧ ¬ isFl s t ∧ t < s.n
  -- a Tflush is not handed to the implementation
  il : ∀ r ∈ s.implLog, r < s.n ∧ ¬ isFl s r
  -- the flush chain of `t` (`flushreq`, the `flushreq` of that, …) is made of Tflushes that found `t`
  flchain : ∀ x f, (s.req x).flushreq = some f → ∃ t, (s.req f).looked = some t ∧ (x = t ∨ (s.req x).looked = some t)
  inst : ∀ it ∈ s.insts, CallOK s it
  -- what is queued or written was `Ready` when Respond was called, and still is
  outr : ∀ f ∈ out s, Ready s f
  -- reply before Rflush
  ord : ∀ f t, (s.req f).looked = some t → f ∈ out s → t ∈ out s → Before (out s) t f

theorem fi_init (cap : Nat) : FI (LS.init cap) := by
  constructor <;> simp [LS.init, out, lkOK]

theorem FI.looked_none {s : LS} (h : FI s) {r : Nat} (hn : ¬ isFl s r) : (s.req r).looked = none :=
  Option.eq_none_iff_forall_ne_some.mpr fun t hl => hn (h.lkt r t hl).1

theorem FI.lk_at {s : LS} (h : FI s) {f : Nat} {w : WPC} (hw : (s.req f).wpc = w) : lkOK w (s.req f).looked :=
  hw ▸ h.lk f

/-- the step moves the worker on, in step with the lookup, and otherwise touches only fields the flush
    bookkeeping does not read -/
structure Moves (q q' : Req) : Prop where
  oldtag : q'.oldtag = q.oldtag
  looked : q'.looked = q.looked
  flushreq : q'.flushreq = q.flushreq
  lk : lkOK q.wpc q.looked → lkOK q'.wpc q'.looked
  done : flDone q.wpc → flDone q'.wpc

theorem Moves.refl (q : Req) : Moves q q := ⟨rfl, rfl, rfl, id, id⟩

theorem Moves.trans {q q' q'' : Req} (a : Moves q q') (b : Moves q' q'') : Moves q q'' :=
  ⟨b.oldtag.trans a.oldtag, b.looked.trans a.looked, b.flushreq.trans a.flushreq, b.lk ∘ a.lk, b.done ∘ a.done⟩

theorem Moves.isFl {s s' : LS} {x : Nat} (hq : Moves (s.req x) (s'.req x)) : isFl s' x ↔ isFl s x := by
  unfold G9.Life.isFl; rw [hq.oldtag]

theorem Ready.step {s s' : LS} {f : Nat} (hq : Moves (s.req f) (s'.req f))
    (hnf : ∀ t, (s.req f).looked = some t → NoFuture s t → NoFuture s' t) (h : Ready s f) : Ready s' f :=
  ⟨fun hfl hl => hq.done (h.1 (hq.isFl.1 hfl) (hq.looked ▸ hl)),
   fun t ht => hnf t (hq.looked ▸ ht) (h.2 t (hq.looked ▸ ht))⟩

theorem CallOK.step {s s' : LS} {it : Inst} (h : FI s) (hI : Ids s.n s) (hq : ∀ x, x < s.n → Moves (s.req x) (s'.req x))
    (hnf : ∀ x, x < s.n → NoFuture s x → NoFuture s' x) (hit : it ∈ s.insts) (k : CallOK s it) : CallOK s' it where
  rdy := k.rdy.step (hq _ (hI.rid it hit)) fun t ht => hnf t (h.lkt _ t ht).2.2
  cur := fun f hf =>
    let ⟨t, h1, h2⟩ := k.cur f hf
    ⟨t, (hq f (hI.bd.fls it hit f hf)).looked.trans h1, hnf t (h.lkt f t h1).2.2 h2⟩

/-- the old record moved on, or `x` is a request received just now -/
def Moved (s : LS) (x : Nat) (q' : Req) : Prop :=
  Moves (s.req x) q' ∨ (s.n ≤ x ∧ q'.looked = none ∧ q'.flushreq = none ∧ lkOK q'.wpc none)

/-- Steps that find no target and queue nothing.  Nothing refers to the slot of a request received just now
    (`Ids`), so every record a clause reads has moved on. -/
theorem fi_frame {s s' : LS} (h : FI s) (hI : Ids s.n s) (hq : ∀ x, Moved s x (s'.req x))
    (hnf : ∀ x, x < s.n → NoFuture s x → NoFuture s' x) (hn : s.n ≤ s'.n)
    (hil : ∀ r ∈ s'.implLog, r ∈ s.implLog ∨ (r < s.n ∧ ¬ isFl s r)) (hout : out s' = out s)
    (hinst : ∀ it' ∈ s'.insts, it' ∈ s.insts ∨ CallOK s' it') : FI s' := by
  have lt : ∀ x, x < s.n → Moves (s.req x) (s'.req x) := fun x hx =>
    (hq x).resolve_right fun k => Nat.not_le_of_lt hx k.1
  have lkd : ∀ {f t}, (s'.req f).looked = some t → Moves (s.req f) (s'.req f) := fun hlk =>
    (hq _).resolve_right fun k => by rw [k.2.1] at hlk; cases hlk
  refine { lk := ?lk, lkt := ?lkt, il := ?il, flchain := ?flchain, inst := ?inst, outr := ?outr, ord := ?ord }
  case lk =>
    intro f
    rcases hq f with k | ⟨_, hl, _, hk⟩
    · exact k.lk (h.lk f)
    · rw [hl]; exact hk
  case lkt =>
    intro f t hlk
    have mf := lkd hlk
    obtain ⟨hff, hnt, htn⟩ := h.lkt f t (mf.looked ▸ hlk)
    exact ⟨mf.isFl.2 hff, mt (lt t htn).isFl.1 hnt, Nat.lt_of_lt_of_le htn hn⟩
  case il =>
    intro r hr
    obtain ⟨hrn, hnr⟩ : r < s.n ∧ ¬ isFl s r := (hil r hr).elim (h.il r) id
    exact ⟨Nat.lt_of_lt_of_le hrn hn, mt (lt r hrn).isFl.1 hnr⟩
  case flchain =>
    intro x f hx
    -- `x` has a flush chain, so it was not received just now; nor was `f`, stored in the chain
    have mx := (hq x).resolve_right fun k => by rw [k.2.2.1] at hx; cases hx
    rw [mx.flushreq] at hx
    rw [(lt f (hI.bd.fq x f hx)).looked, mx.looked]
    exact h.flchain x f hx
  case inst =>
    intro it' hit'
    exact (hinst it' hit').elim (fun hit => (h.inst it' hit).step h hI lt hnf hit) id
  case outr =>
    intro f hf
    rw [hout] at hf
    have hfn : f < s.n := (List.mem_append.mp hf).elim (hI.wi f) (hI.ro f)
    exact (h.outr f hf).step (lt f hfn) fun t ht => hnf t (h.lkt f t ht).2.2
  case ord =>
    intro f t hlk
    rw [hout]
    exact h.ord f t ((lkd hlk).looked ▸ hlk)

/-- …in which one call of Respond moves on -/
theorem fi_move {s s' : LS} (h : FI s) (hI : Ids s.n s) {R : Nat → Req} {C : Nat → List Nat} {U : List Nat}
    {l : List Inst} {i : Nat} {it v : Inst} (hs' : s' = { s with req := R, chain := C, unl := U, insts := setInst l i v })
    (hq : ∀ x, Moves (s.req x) (R x)) (hnf : ∀ x, x < s.n → NoFuture s x → NoFuture s' x)
    (hl : ∀ x ∈ l, x ∈ s.insts ∨ CallOK s' x) (hit : s.insts[i]? = some it) (hrid : v.rid = it.rid)
    (hcur : ∀ f, v.cur = some f → it.cur = some f ∨ ∃ t, (s'.req f).looked = some t ∧ NoFuture s' t) : FI s' := by
  subst hs'
  have hit := List.mem_of_getElem? hit
  have k := (h.inst it hit).step h hI (fun x _ => hq x) hnf hit
  refine fi_frame h hI (fun x => Or.inl (hq x)) hnf (Nat.le_refl _) (fun _ => Or.inl) rfl fun it' hit' => ?_
  rcases mem_setInst hit' with rfl | h1
  · exact Or.inr ⟨hrid ▸ k.rdy, fun f hf => (hcur f hf).elim (k.cur f) id⟩
  · exact hl it' h1

/-- …in which Respond is called on `x`, no Tflush with a target or still looking -/
theorem fi_add {s s' : LS} (h : FI s) (hI : Ids s.n s) {R : Nat → Req} {x : Nat}
    (hs' : s' = { s with req := R, insts := s.insts ++ [{ rid := x }] }) (hq : ∀ x, Moves (s.req x) (R x))
    (hnf : ∀ x, x < s.n → NoFuture s x → NoFuture s' x) (hl : (s.req x).looked = none)
    (hd : isFl s x → flDone (R x).wpc) : FI s' := by
  subst hs'
  refine fi_frame h hI (fun x => Or.inl (hq x)) hnf (Nat.le_refl _) (fun _ => Or.inl) rfl fun it' hit' => ?_
  rcases List.mem_append.mp hit' with h1 | h1
  · exact Or.inl h1
  · rw [List.mem_singleton.mp h1]
    exact Or.inr ⟨⟨fun k _ => hd ((hq x).isFl.1 k), fun t ht => by rw [(hq x).looked, hl] at ht; cases ht⟩, nofun⟩

/-- a winner's reply is queued -/
theorem fi_push {s : LS} (h : FI s) {it : Inst} (hit : it ∈ s.insts) (hwin : 1 ≤ winners s it.rid) :
    FI { s with reqout := s.reqout ++ [it.rid] } := by
  have hout : out { s with reqout := s.reqout ++ [it.rid] } = out s ++ [it.rid] := (List.append_assoc ..).symm
  -- `inst`: the same proofs, about the new state
  refine { h with inst := fun x hx => ⟨(h.inst x hx).rdy, (h.inst x hx).cur⟩,
                  outr := fun f hf => ?_, ord := fun f t hl => ?_ }
  · rw [hout, List.mem_append, List.mem_singleton] at hf
    exact hf.elim (h.outr f) fun e => e ▸ (h.inst it hit).rdy
  · rw [hout]
    refine before_snoc (R := fun t f => (s.req f).looked = some t) (fun t f hl => h.ord f t hl) (fun f hl => ?_) t f hl
    -- were `f` queued already, nothing of its target could still be queued; and a target is no Tflush
    exact ⟨fun hf => Nat.ne_of_gt hwin ((h.outr f hf).2 _ hl).2,
           fun e => (h.lkt f _ hl).2.1 (e ▸ (h.lkt f _ hl).1)⟩

/-- the lookup of a Tflush `f` finds `t`, not itself a Tflush: `f` enters the flush chain of `t`
    (`f.flushreq = t.flushreq; t.flushreq = f`) and records its target -/
theorem fi_lookup {s : LS} (h : FI s) {f t : Nat} {R : Nat → Req} (hw : (s.req f).wpc = .fl0) (hff : isFl s f)
    (htn : t < s.n) (htf : ¬ isFl s t)
    (rf : R f = { s.req f with flushreq := (s.req t).flushreq, wpc := .fl1 (some t), looked := some t })
    (rt : R t = { s.req t with flushreq := some f })
    (rx : ∀ x, x ≠ f → x ≠ t → R x = s.req x) : FI { s with req := R } := by
  have hlf : (s.req f).looked = none := h.lk_at hw
  have hlt : (s.req t).looked = none := h.looked_none htf
  -- Respond has not been called on `f`
  have hnr : ¬ Ready s f := fun k => by have := k.1 hff hlf; rw [hw] at this; exact this
  -- every record but `f`'s changes in `flushreq` only, which `Ready`, `NoFuture`, `isFl` do not read
  have key : ∀ x, x ≠ f → ∃ fr, R x = { s.req x with flushreq := fr } := fun x hx => by
    by_cases hxt : x = t
    · exact ⟨_, hxt ▸ rt⟩
    · exact ⟨_, rx x hx hxt⟩
  have el : ∀ {x}, x ≠ f → (R x).looked = (s.req x).looked := fun hx => by
    obtain ⟨_, e⟩ := key _ hx; rw [e]
  have eor : ∀ x, (R x).oldtag = (s.req x).oldtag ∧ (R x).rs = (s.req x).rs := fun x => by
    by_cases hx : x = f
    · rw [hx, rf]; exact ⟨rfl, rfl⟩
    · obtain ⟨_, e⟩ := key x hx; rw [e]; exact ⟨rfl, rfl⟩
  have efl : ∀ x, isFl { s with req := R } x ↔ isFl s x := fun x => by unfold isFl; rw [(eor x).1]
  have enf : ∀ {x}, NoFuture s x → NoFuture { s with req := R } x := fun hx => ⟨(eor _).2.trans hx.1, hx.2⟩
  have rdy : ∀ {x}, Ready s x → Ready { s with req := R } x := fun {x} k => by
    have hx : x ≠ f := fun he => hnr (he ▸ k)
    obtain ⟨_, e⟩ := key x hx
    refine ⟨fun hfl hl => ?_, fun u hu => enf (k.2 u (el hx ▸ hu))⟩
    dsimp only at hl ⊢
    rw [e]; exact k.1 ((efl x).1 hfl) (el hx ▸ hl)
  refine { lk := ?lk, lkt := ?lkt, il := fun r hr => ⟨(h.il r hr).1, mt (efl r).1 (h.il r hr).2⟩, flchain := ?flchain,
           inst := fun it hit => ⟨rdy (h.inst it hit).rdy, ?cur⟩, outr := fun g hg => rdy (h.outr g hg), ord := ?ord }
  all_goals dsimp only
  case lk =>
    intro g
    by_cases hg : g = f
    · rw [hg, rf]; exact rfl
    · obtain ⟨_, e⟩ := key g hg; rw [e]; exact h.lk g
  case lkt =>
    intro g u hlk
    by_cases hg : g = f
    · rw [hg, rf] at hlk; cases hlk
      exact ⟨(efl g).2 (hg ▸ hff), mt (efl t).1 htf, htn⟩
    · obtain ⟨a, b, c⟩ := h.lkt g u (el hg ▸ hlk)
      exact ⟨(efl g).2 a, mt (efl u).1 b, c⟩
  case flchain =>
    intro x g hx
    -- a successor in a chain of the old table has looked up already, so it is not `f`
    have succ : ∀ y, (s.req y).flushreq = some g → ∃ u, (R g).looked = some u ∧ (y = u ∨ (s.req y).looked = some u) :=
      fun y hy =>
        let ⟨u, k1, k2⟩ := h.flchain y g hy
        ⟨u, (el fun he => by rw [he, hlf] at k1; cases k1).trans k1, k2⟩
    by_cases h1 : x = f
    · -- `f` takes over the successor of `t`
      rw [h1, rf] at hx ⊢
      obtain ⟨u, k1, k2⟩ := succ t hx
      have hut : t = u := k2.elim id fun k2 => by rw [hlt] at k2; cases k2
      exact ⟨t, hut ▸ k1, Or.inr rfl⟩
    · by_cases h2 : x = t
      · rw [h2, rt] at hx; cases hx
        exact ⟨t, by rw [rf], Or.inl h2⟩
      · rw [rx x h1 h2] at hx ⊢
        exact succ x hx
  case cur =>
    intro g hg
    obtain ⟨u, h1, h2⟩ := (h.inst it hit).cur g hg
    exact ⟨u, (el fun he => by rw [he, hlf] at h1; cases h1).trans h1, enf h2⟩
  case ord =>
    intro g u hlk hg
    have hgf : g ≠ f := fun he => hnr (he ▸ h.outr g hg)
    exact h.ord g u (el hgf ▸ hlk) hg

theorem fi_step {s s' : LS} {e : Ev} (hv : Inv s) (h : FI s) (ht : s.tame e = true) (hs : Step s e s') : FI s' := by
  have hI := hv.ids
  have hnf := nf_step hs
  have same : ∀ x, Moves (s.req x) (s.req x) := fun _ => .refl _
  have old : ∀ it' ∈ s.insts, it' ∈ s.insts ∨ CallOK s' it' := fun _ => Or.inl
  cases hs with
  | recv tag ot hc =>
    refine fi_frame h hI (fun x => ?_) hnf (Nat.le_succ _) (fun _ => Or.inl) rfl old
    show Moved s x (upd _ s.n _ x)
    by_cases hx : x = s.n
    · rw [hx, upd_same]; exact Or.inr ⟨Nat.le_refl _, rfl, rfl, by split <;> rfl⟩
    · rw [upd_other _ _ _ _ hx, linkPrev_eq]; exact Or.inl ⟨rfl, rfl, rfl, id, id⟩
  | check r hr hw | dispatchFl r hr hw | lookupNone r hr hw =>
    -- before its lookup a worker has no target
    refine fi_frame h hI (fun _ => Or.inl (upd_rel Moves .refl ⟨rfl, rfl, rfl, fun k => ?_, fun k => ?_⟩)) hnf (Nat.le_refl _)
      (fun _ => Or.inl) rfl old
    · rw [hw] at k; exact k
    · rw [hw] at k; exact k.elim
  | dispatchOp r hr hw ho =>
    refine fi_frame h hI (fun _ => Or.inl (upd_rel Moves .refl ⟨rfl, rfl, rfl, fun k => ?_, fun k => ?_⟩)) hnf (Nat.le_refl _)
      (fun x hx => ?_) rfl old
    · rw [hw] at k; exact k
    · rw [hw] at k; exact k.elim
    · rcases List.mem_append.mp hx with h1 | h1
      · exact Or.inl h1
      · rw [List.mem_singleton.mp h1]; exact Or.inr ⟨hr, fun k => k ho⟩
  | implReturn r hr hw | procEnd r hr hw | actOp r hr _ hw =>
    exact fi_frame h hI (fun _ => Or.inl (upd_rel Moves .refl ⟨rfl, rfl, rfl, fun _ => trivial, fun _ => trivial⟩)) hnf
      (Nat.le_refl _) (fun _ => Or.inl) rfl old
  | selfRespond r hr hw | actNone r hr hw =>
    exact fi_add h hI rfl (fun _ => upd_rel Moves .refl ⟨rfl, rfl, rfl, fun _ => trivial, fun _ => trivial⟩) hnf (h.lk_at hw)
      fun _ => by rw [upd_same]; trivial
  | answer r hr hm =>
    have hn := (h.il r hm).2
    exact fi_add h hI rfl same hnf (h.looked_none hn) fun k => absurd k hn
  | implFlush r hr hm =>
    have hn := (h.il r hm).2
    exact fi_add h hI rfl (fun _ => upd_rel Moves .refl ⟨rfl, rfl, rfl, id, id⟩) hnf (h.looked_none hn) fun k => absurd k hn
  | actCancel f hf t hw =>
    -- Respond on the target, which is no Tflush
    have hn := (h.lkt f t (h.lk_at hw)).2.1
    exact fi_add h hI rfl (fun _ => upd_rel Moves .refl ⟨rfl, rfl, rfl, fun _ => trivial, fun _ => trivial⟩) hnf
      (h.looked_none hn) fun k => absurd k hn
  | lookupSome f hf hw ot ho t hl =>
    have ⟨hhd, htf⟩ := lookupTarget_some hl
    -- tame: the target is no Tflush
    have ht : ((s.req t).oldtag == none) = true := by simpa only [LS.tame, ho, hl] using ht
    have hnt : ¬ isFl s t := fun k => k (eq_of_beq ht)
    -- the step's three `upd` read at `f`, at `t` and elsewhere: `rf`, `rt`, `rx` of `fi_lookup`
    exact fi_lookup h hw (fun k => by rw [ho] at k; cases k) (hI.ch ot t (List.mem_of_mem_head? hhd)) hnt
      (by simp [upd, htf.symm]) (by simp [upd, htf]) fun x h1 h2 => by simp [upd, h1, h2]
  | flushMark f hf t hw =>
    -- the target's flush bit and ghost are not read; the worker keeps its target
    refine fi_frame h hI (fun _ => Or.inl (.trans (upd_rel Moves .refl ?_) (upd_rel Moves .refl ?_))) hnf (Nat.le_refl _)
      (fun _ => Or.inl) rfl old
    · exact ⟨rfl, rfl, rfl, id, id⟩
    · have hk := h.lkt f t (h.lk_at hw)
      have hft : f ≠ t := fun e => hk.2.1 (e ▸ hk.1)
      refine ⟨rfl, rfl, rfl, fun k => ?_, fun k => ?_⟩
      · rw [upd_other _ _ _ _ hft] at k ⊢; rw [hw] at k; exact k
      · rw [upd_other _ _ _ _ hft, hw] at k; exact k.elim
  | send r rest hro hc =>
    exact fi_frame h hI (fun _ => Or.inl (.refl _)) hnf (Nat.le_refl _) (fun _ => Or.inl) (by simp [out, hro]) old
  | close hc => exact fi_frame h hI (fun _ => Or.inl (.refl _)) hnf (Nat.le_refl _) (fun _ => Or.inl) rfl old
  | post i it hit | queueDrop i it hit | nextNone i it hit | flushesEnd i it hit =>
    exact fi_move h hI rfl same hnf old hit rfl fun _ => Or.inl
  | markLost i it hit | markWon i it hit =>
    -- the test-and-set: `rs` is read through NoFuture only
    exact fi_move h hI rfl (fun _ => upd_rel Moves .refl ⟨rfl, rfl, rfl, id, id⟩) hnf old hit rfl
      fun _ => Or.inl
  | queuePush i it hit hpc =>
    have hmem := List.mem_of_getElem? hit
    have hwin : 1 ≤ winners s it.rid := List.countP_pos_iff.mpr ⟨it, hmem, by simp [win, hpc]⟩
    exact fi_move (fi_push h hmem hwin) { hI with ro := forall_snoc hI.ro (hI.rid it hmem) } rfl same hnf old hit rfl
      fun _ => Or.inl
  -- not tame: an older request of the tag is still in the table
  | unlinkMid i it hit _ od hod => simp [LS.tame, hit, hod] at ht
  -- not tame: flushes wait on the request and it has a successor under its tag
  | unlinkMove i it hit _ _ m hp fr hfr | unlinkRestart i it hit _ _ m hp fr hfr => simp [LS.tame, hit, hp, hfr] at ht
  | unlinkLast i it hit hpc hod hp =>
    -- the cursor goes to the head of the flush chain: all in it wait for this request or its own target
    have hmem := List.mem_of_getElem? hit
    refine fi_move h hI rfl same hnf old hit rfl fun f hf => Or.inr ?_
    obtain ⟨t, h1, rfl | h2⟩ := h.flchain it.rid f hf
    · -- this call alone is past the test-and-set, and it leaves the queue behind
      exact ⟨_, h1, gone_nf (onceIn_leave hv.flight hit (by rw [hpc]; rfl) rfl)⟩
    · exact ⟨t, h1, hnf t (h.lkt f t h1).2.2 ((h.inst it hmem).rdy.2 t h2)⟩
  | unlinkNext i it hit =>
    exact fi_move h hI rfl same hnf old hit rfl nofun
  | nextStart i it hit hpc m hn =>
    have hw : (s.req m).wpc = .queued := by simpa [LS.tame, hit, hn] using ht
    refine fi_move h hI rfl (fun _ => upd_rel Moves .refl ⟨rfl, rfl, rfl, fun k => ?_, fun k => ?_⟩) hnf old hit rfl
      fun _ => Or.inl
    · rw [hw] at k; exact k
    · rw [hw] at k; exact k.elim
  | flushesAdv i it hit hpc f hcur hsp =>
    -- freq = freq.flushreq: the next in the chain waits for the same target
    have hmem := List.mem_of_getElem? hit
    obtain ⟨t, k1, k2⟩ := (h.inst it hmem).cur f hcur
    refine fi_move h hI rfl same hnf old hit rfl fun f' hf' => Or.inr ?_
    obtain ⟨t', j1, j2⟩ := h.flchain f f' hf'
    refine ⟨t', j1, hnf t' (h.lkt f' t' j1).2.2 ?_⟩
    rcases j2 with j2 | j2
    · exact absurd (h.lkt f t k1).1 (j2 ▸ (h.lkt f' t' j1).2.1)
    · rw [k1] at j2; cases j2; exact k2
  | flushesCall i it hit hpc f hcur hsp =>
    have hmem := List.mem_of_getElem? hit
    obtain ⟨t, k1, k2⟩ := (h.inst it hmem).cur f hcur
    refine fi_move h hI (l := s.insts ++ [({ rid := f } : Inst)]) rfl same hnf (fun x hx => ?_) hit rfl fun _ => Or.inl
    rcases List.mem_append.mp hx with h1 | h1
    · exact Or.inl h1
    · rw [List.mem_singleton.mp h1]
      refine Or.inr ⟨⟨fun _ hl => ?_, fun u hu => ?_⟩, nofun⟩
      · rw [k1] at hl; cases hl
      · rw [k1] at hu; cases hu; exact hnf t (h.lkt f t k1).2.2 k2

theorem fi_runT (es : List Ev) (s s' : LS) (h : Inv s ∧ FI s) (hr : s.runT es = some s') : Inv s' ∧ FI s' :=
  guarded_inv LS.isRunT (P := fun s => Inv s ∧ FI s)
    (fun _ _ _ ⟨hI, h⟩ ht hs => ⟨hs.inv hI, fi_step hI h ht hs⟩) es s s' h hr

end G9.Life
