/-
  C19's table (G9.Locks over G9.GeneratedLocks), decided by one kernel evaluation of a check written for it.
  The kernel compares two strings by encoding both in UTF-8, which costs far more than the comparison, and it
  remembers the value of a closed term: so the check takes an access apart before it looks at the field
  (`guardFor "T.f"` is then such a term; some 1800 accesses of some 200 fields), goes through the table once
  for both facts, and compares the encodings themselves.
-/
import G9.Locks
namespace G9.Locks
open G9.GeneratedLocks

def eqs (a b : String) : Bool := a.toByteArray.data.toList == b.toByteArray.data.toList

theorem eqs_eq (a b : String) : eqs a b = (a == b) := by
  rw [Bool.eq_iff_iff]
  simp [eqs, ← String.toByteArray_inj, ByteArray.ext_iff]

def guardFor (field : String) : Option Guard := (policy.find? (eqs ·.1 field)).map (·.2)

def ok : Access → Bool
  | ⟨fn, field, base, _, held, _, _⟩ =>
    match guardFor field with
    | none => true
    | some (.own t) => held.any (fun h => eqs h.typ t && eqs h.base base) || exempt.any (fun e => eqs e.1 fn && eqs e.2.1 field)
    | some (.via t) => held.any (fun h => eqs h.typ t) || exempt.any (fun e => eqs e.1 fn && eqs e.2.1 field)

/-- the field of a write to a guarded field -/
def written : Access → Option String
  | ⟨_, field, _, write, _, _, _⟩ => if write && (guardFor field).isSome then some field else none

theorem ok_eq (a : Access) : ok a = okAccess a := by
  cases a; simp only [ok, guardFor, eqs_eq]; rfl

theorem table_ok :
    (allAccesses.all ok && policy.all fun p => (allAccesses.filterMap written).any (eqs p.1)) = true := by
  decide +kernel

end G9.Locks
