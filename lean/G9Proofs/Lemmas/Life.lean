/-
  What the invariants of M4 are made of: the tables a step rewrites, each with the lemma that carries a
  property of every entry across the rewrite; and the two facts every invariant uses — `reqResponded` is
  never cleared, and a call of Respond gets past the test-and-set only by winning it (`OnceIn`).
-/
import G9Proofs.Lemmas.LifeStepRel
namespace G9.Life

/-- `x` is implicit so that the goal fixes `g`, `i`, `v` before `h` is elaborated (a `⟨id, …⟩` given for `h`
    would otherwise unify `v` with `g i`); in a chain of `.trans` pass `?_` for `h` for the same reason. -/
theorem upd_rel (R : Req → Req → Prop) {g : Nat → Req} {i x : Nat} {v : Req} (hrefl : ∀ q, R q q) (h : R (g i) v) :
    R (g x) (upd g i v x) := by
  by_cases hx : x = i
  · rw [hx, upd_same]; exact h
  · rw [upd_other _ _ _ _ hx]; exact hrefl _

/-- Most steps modify a record in fields `Q` does not read, and `hv` is then `id`. -/
theorem upd_at (Q : Req → Prop) {g : Nat → Req} {i x : Nat} {v : Req} (hv : Q (g i) → Q v) (h : Q (g x)) :
    Q (upd g i v x) :=
  upd_rel (fun q q' => Q q → Q q') (fun _ => id) hv h

theorem rs_upd1 (g : Nat → Req) (i : Nat) (v : Req) (hv : (g i).rs = true → v.rs = true) (t : Nat) :
    (g t).rs = true → (upd g i v t).rs = true := upd_at (·.rs = true) hv

theorem linkPrev_eq (g : Nat → Req) (hd : Option Nat) (r x : Nat) :
    linkPrev g hd r x = { g x with prev := if hd = some x then some r else (g x).prev } := by
  unfold linkPrev
  cases hd with
  | none => rfl
  | some y =>
    by_cases hx : x = y
    · subst hx; simp
    · simp [hx, Ne.symm hx]

theorem updL_same (f : Nat → List Nat) (i : Nat) (v : List Nat) : updL f i v i = v := if_pos rfl
theorem updL_other (f : Nat → List Nat) (i j : Nat) (v : List Nat) (h : j ≠ i) : updL f i v j = f j := if_neg h

theorem forall_updL {P : Nat → Prop} {c : Nat → List Nat} (hc : ∀ tag, ∀ r ∈ c tag, P r) {l : List Nat}
    (hl : ∀ r ∈ l, P r) (tg : Nat) : ∀ tag, ∀ r ∈ updL c tg l tag, P r := by
  intro tag
  unfold updL
  split
  · exact hl
  · exact hc tag

theorem forall_snoc {α} {P : α → Prop} {l : List α} (hl : ∀ x ∈ l, P x) {v : α} (hv : P v) : ∀ x ∈ l ++ [v], P x :=
  List.forall_mem_append.2 ⟨hl, List.forall_mem_singleton.2 hv⟩

theorem mem_setInst {l : List Inst} {i : Nat} {v x : Inst} (h : x ∈ setInst l i v) : x = v ∨ x ∈ l :=
  (List.mem_or_eq_of_mem_set h).symm

theorem forall_setInst {P : Inst → Prop} {l : List Inst} (hl : ∀ x ∈ l, P x) {i : Nat} {it v : Inst}
    (hit : l[i]? = some it) (hv : P it → P v) : ∀ x ∈ setInst l i v, P x := by
  intro x hx
  rcases mem_setInst hx with rfl | h1
  · exact hv (hl it (List.mem_of_getElem? hit))
  · exact hl x h1

theorem setInst_get {l : List Inst} {i : Nat} {it : Inst} (h : l[i]? = some it) (v : Inst) : (setInst l i v)[i]? = some v :=
  List.getElem?_set_self (List.getElem?_eq_some_iff.mp h).1

theorem getElem?_snoc {α} {l : List α} {i : Nat} {a : α} (h : l[i]? = some a) (v : α) : (l ++ [v])[i]? = some a := by
  rw [List.getElem?_append_left (List.getElem?_eq_some_iff.mp h).1, h]

theorem countP_set {α} (p : α → Bool) (l : List α) (i : Nat) (old v : α) (h : l[i]? = some old) :
    (l.set i v).countP p + (if p old then 1 else 0) = l.countP p + (if p v then 1 else 0) := by
  obtain ⟨hi, rfl⟩ := List.getElem?_eq_some_iff.mp h
  have : (if p l[i] then 1 else 0) ≤ l.countP p := by
    split
    · exact List.countP_pos_iff.mpr ⟨_, List.getElem_mem hi, ‹_›⟩
    · exact Nat.zero_le _
  rw [List.countP_set hi]
  omega

theorem countP_move {p : Inst → Bool} {l : List Inst} {i : Nat} {it v : Inst} (hit : l[i]? = some it) :
    (setInst l i v).countP p ≤ l.countP p + 1 ∧ ((p v = true → p it = true) → (setInst l i v).countP p ≤ l.countP p) := by
  have := countP_set p l i it v hit
  unfold setInst
  by_cases hv : p v = true
  · rw [if_pos hv] at this
    refine ⟨by omega, fun h => ?_⟩
    rw [if_pos (h hv)] at this; omega
  · rw [if_neg hv] at this; omega

structure Keeps (q q' : Req) : Prop where
  rs : q.rs = true → q'.rs = true
  noRun : q.noRun = true → q'.noRun = true

theorem Keeps.refl (q : Req) : Keeps q q := ⟨id, id⟩

theorem Keeps.trans {q q' q'' : Req} (a : Keeps q q') (b : Keeps q' q'') : Keeps q q'' :=
  ⟨b.rs ∘ a.rs, b.noRun ∘ a.noRun⟩

theorem Step.keeps {s s' : LS} {e : Ev} (hs : Step s e s') {t : Nat} (ht : t ≠ s.n) : Keeps (s.req t) (s'.req t) := by
  cases hs with
  | recv =>
    show Keeps _ (upd _ s.n _ t)
    rw [upd_other _ _ _ _ ht, linkPrev_eq]
    exact ⟨id, id⟩
  | check | dispatchOp | dispatchFl | selfRespond | implFlush | implReturn | procEnd | lookupNone | actNone | actCancel
  | actOp | unlinkMid | unlinkMove | nextStart => exact upd_rel Keeps .refl ⟨id, id⟩
  | markLost | markWon => exact upd_rel Keeps .refl ⟨fun _ => rfl, id⟩
  | flushMark =>
    refine .trans (upd_rel Keeps .refl ?_) (upd_rel Keeps .refl ?_)
    · exact ⟨id, fun k => by rw [k]; rfl⟩
    · exact ⟨id, id⟩
  | lookupSome =>
    refine .trans (.trans (upd_rel Keeps .refl ?_) (upd_rel Keeps .refl ?_)) (upd_rel Keeps .refl ?_)
    · exact ⟨id, id⟩
    · exact ⟨id, id⟩
    · exact ⟨id, id⟩
  | _ => exact .refl _

theorem Step.n_le {s s' : LS} {e : Ev} (h : Step s e s') : s.n ≤ s'.n := by
  cases h with
  | recv => exact Nat.le_succ _
  | _ => exact Nat.le_refl _

def onPc (P : IPC → Bool) (r : Nat) (it : Inst) : Bool := it.rid == r && P it.pc

theorem onPc_iff {P : IPC → Bool} {r : Nat} {it : Inst} : onPc P r it = true ↔ it.rid = r ∧ P it.pc = true := by
  simp [onPc]

theorem onPc_mono {P : IPC → Bool} {r : Nat} {it v : Inst} (hr : v.rid = it.rid) (h : P v.pc = true → P it.pc = true)
    (hv : onPc P r v = true) : onPc P r it = true :=
  onPc_iff.mpr ⟨hr ▸ (onPc_iff.mp hv).1, h (onPc_iff.mp hv).2⟩

/-- `P` is a stretch of Respond's path that is entered only by winning the test-and-set -/
structure Stretch (P : IPC → Bool) : Prop where
  mark : P .mark = false
  done : P .done = false
  queue : P .queue = true → P .post = true
  unlink : P .unlink = true → P .queue = true
  next : P .next = true → P .unlink = true
  flushes : P .flushes = true → P .next = true

theorem countP_new {P : IPC → Bool} (hP : Stretch P) (l : List Inst) (r x : Nat) :
    (l ++ [({ rid := x } : Inst)]).countP (onPc P r) = l.countP (onPc P r) := by
  rw [List.countP_append, List.countP_singleton, onPc, hP.mark, Bool.and_false]; rfl

/-- The calls on `r` inside a stretch become more at one step only, and by one: the test-and-set that finds
    `rs` clear, and sets it. -/
theorem cnt_step {P : IPC → Bool} (hP : Stretch P) {s s' : LS} {e : Ev} (h : Step s e s') (r : Nat) :
    s'.insts.countP (onPc P r) ≤ s.insts.countP (onPc P r) ∨
    ((s.req r).rs = false ∧ (s'.req r).rs = true ∧ s'.insts.countP (onPc P r) ≤ s.insts.countP (onPc P r) + 1) := by
  -- a call that moves on adds nothing if it is inside the stretch afterwards only when it was before (`hP`)
  have move : ∀ {i : Nat} {it v : Inst}, s.insts[i]? = some it → v.rid = it.rid → (P v.pc = true → P it.pc = true) →
      (setInst s.insts i v).countP (onPc P r) ≤ s.insts.countP (onPc P r) :=
    fun hit hr hp => (countP_move hit).2 (onPc_mono hr hp)
  cases h with
  | recv | check | dispatchOp | dispatchFl | implReturn | procEnd | lookupNone | lookupSome | flushMark | actOp
    | send | close => exact Or.inl (Nat.le_refl _)
  | selfRespond | answer | implFlush | actNone | actCancel => exact Or.inl (Nat.le_of_eq (countP_new hP _ r _))
  | markLost i it hit hpc | flushesEnd i it hit hpc =>
    exact Or.inl (move hit rfl fun hd => absurd hd (by rw [hP.done]; nofun))
  | post i it hit hpc => exact Or.inl (move hit rfl (by rw [hpc]; exact hP.queue))
  | queueDrop i it hit hpc | queuePush i it hit hpc => exact Or.inl (move hit rfl (by rw [hpc]; exact hP.unlink))
  | unlinkMid i it hit hpc | unlinkLast i it hit hpc | unlinkNext i it hit hpc | unlinkMove i it hit hpc
    | unlinkRestart i it hit hpc => exact Or.inl (move hit rfl (by rw [hpc]; exact hP.next))
  | nextNone i it hit hpc | nextStart i it hit hpc => exact Or.inl (move hit rfl (by rw [hpc]; exact hP.flushes))
  | flushesAdv i it hit => exact Or.inl (move hit rfl id)
  | flushesCall i it hit hpc f =>
    -- the caller stays; the new call stands at `mark`, outside every stretch
    exact Or.inl (Nat.le_trans ((countP_move (getElem?_snoc hit _)).2 (onPc_mono rfl id))
      (Nat.le_of_eq (countP_new hP _ r f)))
  | markWon i it hit hpc hrs =>
    by_cases hr : it.rid = r
    · exact Or.inr ⟨hr ▸ Bool.eq_false_iff.mpr hrs, hr ▸ congrArg Req.rs (upd_same _ _ _), (countP_move hit).1⟩
    · exact Or.inl ((countP_move hit).2 fun hv => absurd (onPc_iff.mp hv).1 hr)

theorem cnt_zero_step {P : IPC → Bool} (hP : Stretch P) {s s' : LS} {e : Ev} (hst : Step s e s') {a : Nat} (ha : a ≠ s.n)
    (h : (s.req a).rs = true ∧ s.insts.countP (onPc P a) = 0) :
    (s'.req a).rs = true ∧ s'.insts.countP (onPc P a) = 0 := by
  refine ⟨(hst.keeps ha).rs h.1, ?_⟩
  rcases cnt_step hP hst a with hle | ⟨hf, _⟩
  · exact Nat.le_zero.mp (Nat.le_trans hle (Nat.le_of_eq h.2))
  · rw [h.1] at hf; cases hf

/-- the step of "at most one is counted, and then the bit is set" -/
theorem once_next {c c' : Nat} {b b' : Bool} (h : c ≤ 1 ∧ (1 ≤ c → b = true)) (hb : 1 ≤ c → b = true → b' = true)
    (hc : c' ≤ c ∨ (b = false ∧ b' = true ∧ c' ≤ c + 1)) : c' ≤ 1 ∧ (1 ≤ c' → b' = true) := by
  rcases hc with hle | ⟨hf, ht, hle⟩
  · exact ⟨Nat.le_trans hle h.1, fun h1 => hb (Nat.le_trans h1 hle) (h.2 (Nat.le_trans h1 hle))⟩
  · have h0 : ¬ 1 ≤ c := fun h1 => by rw [h.2 h1] at hf; cases hf
    exact ⟨by omega, fun _ => ht⟩

def OnceIn (P : IPC → Bool) (s : LS) : Prop :=
  ∀ r, s.insts.countP (onPc P r) ≤ 1 ∧ (1 ≤ s.insts.countP (onPc P r) → (s.req r).rs = true)

theorem onceIn_init (P : IPC → Bool) (cap : Nat) : OnceIn P (LS.init cap) := fun _ => ⟨Nat.zero_le _, nofun⟩

theorem onceIn_step {P : IPC → Bool} (hP : Stretch P) {s s' : LS} {e : Ev} (hR : ∀ it ∈ s.insts, it.rid < s.n)
    (h : OnceIn P s) (hst : Step s e s') : OnceIn P s' := by
  intro r
  refine once_next (h r) (fun h1 => ?_) (cnt_step hP hst r)
  -- what is counted was received earlier, and no step clears the `rs` of such a request
  obtain ⟨it, hit, hw⟩ := List.countP_pos_iff.mp h1
  have hr : r < s.n := (onPc_iff.mp hw).1 ▸ hR it hit
  exact (hst.keeps (Nat.ne_of_lt hr)).rs

theorem onceIn_leave {P : IPC → Bool} {s : LS} (h : OnceIn P s) {i : Nat} {it v : Inst} (hit : s.insts[i]? = some it)
    (hin : P it.pc = true) (hv : P v.pc = false) :
    (s.req it.rid).rs = true ∧ (setInst s.insts i v).countP (onPc P it.rid) = 0 := by
  have hv : onPc P it.rid v = false := by rw [onPc, hv, Bool.and_false]
  have := countP_set (onPc P it.rid) s.insts i it v hit
  rw [hv, if_pos (onPc_iff.mpr ⟨rfl, hin⟩), if_neg Bool.false_ne_true] at this
  obtain ⟨h1, h2⟩ := h it.rid
  unfold setInst
  exact ⟨h2 (by omega), by omega⟩

/-- a call of Respond that won the test-and-set and has not yet queued its reply -/
def win (r : Nat) (it : Inst) : Bool :=
  it.rid == r && (it.pc == .post || it.pc == .queue)

def winners (s : LS) (r : Nat) : Nat := s.insts.countP (win r)
def sent (s : LS) (r : Nat) : Nat := (s.reqout ++ s.wire).count r

theorem win_mark (r : Nat) (it : Inst) (h : it.pc = .mark) : win r it = false := by simp [win, h]

/-- `win r` is `onPc` of this stretch, `winners s r` its count -/
theorem win_stretch : Stretch fun pc => pc == .post || pc == .queue := by constructor <;> decide

theorem win_iff {r : Nat} {it : Inst} : win r it = true ↔ it.rid = r ∧ (it.pc == .post || it.pc == .queue) = true :=
  onPc_iff (P := fun pc => pc == .post || pc == .queue)

/-- from the test-and-set won until the request is out of the tag table -/
def inFlight (pc : IPC) : Bool := pc == .post || pc == .queue || pc == .unlink

theorem inFlight_stretch : Stretch inFlight := by constructor <;> decide

theorem win_inFlight {r : Nat} {it : Inst} (h : win r it = true) : onPc inFlight r it = true :=
  onPc_iff.mpr ⟨(win_iff.mp h).1, by unfold inFlight; rw [(win_iff.mp h).2]; rfl⟩

end G9.Life
