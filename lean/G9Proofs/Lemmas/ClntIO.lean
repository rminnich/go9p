/-
  The hand-off to the writer goroutine and the shutdown handshake (G9.ClntIO): every step keeps
  `C10.HSInv` — the writer has returned exactly when the receiver has closed, and no caller stands
  at the select twice.
-/
import G9.ClntIO
import G9Proofs.Lemmas.Run

namespace G9.ClntIO

theorem HS.isRun : Run.Of HS.step HS.run := ⟨fun _ => rfl, fun _ _ _ => rfl⟩

end G9.ClntIO

namespace G9.C10
open G9.ClntIO

structure HSInv (s : HS) : Prop where
  gone : s.w = .gone ↔ s.r = .closed
  nodup : s.handing.Nodup

theorem ioinv_init : HSInv HS.init := ⟨by simp [HS.init], by simp [HS.init]⟩

theorem ioinv_step (s s' : HS) (e : ClntIO.Ev) (h : HSInv s) (hs : s.step e = some s') : HSInv s' := by
  have hnc : s.w ≠ .gone → s.r ≠ .closed := fun hw hr => hw (h.gone.2 hr)
  cases e <;> simp only [HS.step] at hs
  case enq i =>
    split at hs <;> cases hs
    rename_i hn
    exact ⟨h.gone, List.nodup_append.2 ⟨h.nodup, by simp,
      fun a ha b hb hab => hn (.inl (List.mem_singleton.1 hb ▸ hab ▸ ha))⟩⟩
  case handoff i =>
    split at hs <;> cases hs
    rename_i hc
    exact ⟨iff_of_false nofun (hnc (by simp [hc.2])), h.nodup.erase i⟩
  case wrote | wfail =>
    split at hs <;> cases hs
    rename_i hw
    exact ⟨iff_of_false nofun (hnc (by simp [hw])), h.nodup⟩
  case rfail =>
    split at hs <;> cases hs
    rename_i hr
    exact ⟨iff_of_false (fun hw => by simp [h.gone.1 hw] at hr) nofun, h.nodup⟩
  case stop =>
    split at hs <;> cases hs
    exact ⟨iff_of_true rfl rfl, h.nodup⟩
  case giveup i =>
    split at hs <;> cases hs
    exact ⟨h.gone, h.nodup.erase _⟩

end G9.C10
