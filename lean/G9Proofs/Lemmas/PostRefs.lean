/-
  The post-handler (`Srv.post`): one case analysis, `post_cases`, shows that it either releases
  one reference or rewrites one record; reference counts, users and msize follow from that.
-/
import G9Proofs.Lemmas.Users
namespace G9.Srv

/-- the reference a successful reply retains (attachPost / authPost / walkPost) -/
def postRet (fs : Fids) (t : Msg) (rep : Reply) (k : UInt32) : Nat :=
  match postKind t rep with
  | .auth afid => if k = afid ∧ present fs afid then 1 else 0
  | .attach fid _ => if k = fid ∧ present fs fid then 1 else 0
  | .walk f nf names qs =>
      if qs.length = names.length ∧ present fs f ∧ present fs nf ∧ nf ≠ f ∧ k = nf then 1 else 0
  | _ => 0

/-- the reference a reply releases (clunkPost / removePost) -/
def postRel (t : Msg) (rep : Reply) (k : UInt32) : Nat :=
  match postKind t rep with
  | .release f => if k = f then 1 else 0
  | _ => 0

/-- What a post-handler does to `c.fids`, with the references it retains (`ret`) and releases (`rel`): it
    releases one (Rclunk, Tremove), or rewrites one record — its user stays, its count goes up by `n`. -/
inductive PostCase (c : Conn) (ret rel : UInt32 → Nat) : Conn × List UInt32 → Prop
  | release (f) (hret : ∀ k, ret k = 0) (hrel : ∀ k, rel k = if k = f then 1 else 0) :
      PostCase c ret rel ({ c with fids := (decRef c.fids f).1 }, (decRef c.fids f).2)
  | rewrite (k g n) (hg : ∀ x, (g x).user = x.user ∧ (g x).ref = x.ref + n)
      (hret : ∀ k', ret k' = if k' = k ∧ present c.fids k then n else 0) (hrel : ∀ k, rel k = 0) :
      PostCase c ret rel ({ c with fids := modFid c.fids k g }, [])

variable {c : Conn} {ret rel : UInt32 → Nat} {x : Conn × List UInt32}

theorem PostCase.idle (hret : ∀ k, ret k = 0) (hrel : ∀ k, rel k = 0) : PostCase c ret rel (c, []) := by
  have := PostCase.rewrite (c := c) 0 (fun x => x) 0 (fun _ => ⟨rfl, rfl⟩)
    (fun k => (hret k).trans (ite_self _).symm) hrel
  rwa [modFid_id] at this

theorem post_cases (c : Conn) (t : Msg) (rep : Reply) :
    PostCase c (postRet c.fids t rep) (postRel t rep) (post c t rep) := by
  unfold post postRet postRel
  cases postKind t rep with
  | release f => exact .release f (fun _ => rfl) (fun _ => rfl)
  | auth afid => exact .rewrite afid _ 1 (fun _ => ⟨rfl, rfl⟩) (fun _ => rfl) (fun _ => rfl)
  | attach fid q =>
    dsimp only [incRef]
    rw [modFid_modFid]
    exact .rewrite fid _ 1 (fun _ => ⟨rfl, rfl⟩) (fun _ => rfl) (fun _ => rfl)
  | opened f => exact .rewrite f _ 0 (fun _ => ⟨rfl, rfl⟩) (fun _ => (ite_self _).symm) (fun _ => rfl)
  | created f q => exact .rewrite f _ 0 (fun _ => ⟨rfl, rfl⟩) (fun _ => (ite_self _).symm) (fun _ => rfl)
  | read f d =>
    exact .rewrite f _ 0 (fun x => by split <;> exact ⟨rfl, rfl⟩) (fun _ => (ite_self _).symm) (fun _ => rfl)
  | none => exact .idle (fun _ => rfl) (fun _ => rfl)
  | walk f nf names qs =>
    dsimp only
    -- nothing happens unless the walk was complete and both fids are there…
    by_cases hlen : qs.length = names.length
    · rw [if_neg (fun h => bne_iff_ne.1 h hlen)]
      cases hlf : lookup c.fids f with
      | none => exact .idle (fun _ => if_neg fun h => not_present_of_none hlf h.2.1) (fun _ => rfl)
      | some fr =>
        cases hln : lookup c.fids nf with
        | none => exact .idle (fun _ => if_neg fun h => not_present_of_none hln h.2.2.1) (fun _ => rfl)
        | some nr =>
          have hpn := present_of_lookup hln
          dsimp only
          -- …and a reference is retained only by a walk to another number
          by_cases hnf : nf = f
          · rw [if_neg (fun h => bne_iff_ne.1 h hnf)]
            exact .rewrite nf _ 0 (fun _ => ⟨rfl, rfl⟩)
              (fun _ => by rw [if_neg (fun h => h.2.2.2.1 hnf), ite_self]) (fun _ => rfl)
          · rw [if_pos (bne_iff_ne.2 hnf), incRef, modFid_modFid]
            refine .rewrite nf _ 1 (fun _ => ⟨rfl, rfl⟩) (fun k' => ?_) (fun _ => rfl)
            by_cases hk : k' = nf
            · rw [if_pos ⟨hlen, present_of_lookup hlf, hpn, hnf, hk⟩, if_pos ⟨hk, hpn⟩]
            · rw [if_neg (fun h => hk h.2.2.2.2), if_neg (fun h => hk h.1)]
    · rw [if_pos (bne_iff_ne.2 hlen)]
      exact .idle (fun _ => if_neg fun h => hlen h.1) (fun _ => rfl)

theorem PostCase.refs (h : PostCase c ret rel x) (hp : RefsPos c.fids) :
    RefsPos x.1.fids ∧ ∀ k, refOf x.1.fids k = refOf c.fids k + ret k - rel k := by
  cases h with
  | release f hret hrel =>
    refine ⟨RefsPos_decRef _ _ hp, fun k => ?_⟩
    rw [hret, hrel, refOf_decRef]
    split <;> rfl
  | rewrite k g n hg hret hrel =>
    refine ⟨RefsPos_modFid _ _ _ n (fun r => (hg r).2) hp, fun k' => ?_⟩
    rw [hret, hrel]; exact refOf_modFid _ _ _ _ n (fun r => (hg r).2)

/-- Followed by the release of what the request held (`ks`), a post-handler leaves a count at some `m`, no less than
    it was, and then `r` references are released one by one — its own first, if it releases one: `FidDestroy` is
    called iff they take the count from `m` to 0. -/
theorem PostCase.then_release (h : PostCase c ret rel x) (hp : RefsPos c.fids) (ks : List UInt32) (k : UInt32) :
    ∃ m r, refOf c.fids k ≤ m ∧ refOf (decRefs x.1.fids ks).1 k = m - r ∧
      (x.2 ++ (decRefs x.1.fids ks).2).count k = if 1 ≤ m ∧ m ≤ r then 1 else 0 := by
  cases h with
  | release f =>
    exact ⟨_, _, Nat.le_refl _, refOf_decRefs c.fids (f :: ks) k, count_destroyed_decRefs c.fids (f :: ks) k hp⟩
  | rewrite k0 g n hg =>
    have hn := fun r => (hg r).2
    exact ⟨_, _, refOf_modFid _ _ k g n hn ▸ Nat.le_add_right _ _, refOf_decRefs _ ks k,
      count_destroyed_decRefs _ ks k (RefsPos_modFid _ _ g n hn hp)⟩

theorem PostCase.shrinks (h : PostCase c ret rel x) : Shrinks c.fids x.1.fids := by
  cases h with
  | release => exact shrinks_decRef _ _
  | rewrite k g n hg => exact fun k' => .inr (userAt_modFid_keep _ _ _ _ (fun r => (hg r).1))

theorem PostCase.msize (h : PostCase c ret rel x) : x.1.msize = c.msize ∧ x.1.dotu = c.dotu := by
  cases h <;> exact ⟨rfl, rfl⟩

end G9.Srv
