/-
  The client's call machinery (G9.Clnt) event by event; every event leaves the tags accounted for
  (`C09.tags`) a permutation of what they were.
-/
import G9.Clnt
import G9Proofs.Lemmas.Run
namespace G9.Clnt

theorem CS.isRun : Run.Of CS.step CS.run := ⟨fun _ => rfl, fun _ _ _ => rfl⟩

theorem tagOf_mem {s : CS} {i t : Nat} (h : tagOf s i = some t) : (i, t) ∈ s.live := by
  obtain ⟨⟨j, u⟩, hf, rfl⟩ := Option.map_eq_some_iff.1 h
  have := List.find?_some hf
  simp only [beq_iff_eq] at this
  exact this ▸ List.mem_of_find?_eq_some hf

@[simp] theorem release_woken (s : CS) (i t : Nat) : (s.release i t).woken = s.woken := by
  unfold CS.release; split <;> rfl

@[simp] theorem release_pend (s : CS) (i t : Nat) : (s.release i t).pend = s.pend := by
  unfold CS.release; split <;> rfl

theorem step_some {s s' : CS} {e : Ev} (h : s.step e = some s') :
    match e with
    | .alloc i => ∃ t,
        (∃ c, s.cache = t :: c ∧ s' = { s with cache := c, live := (i, t) :: s.live }) ∨
        (∃ f, s.cache = [] ∧ s.free = t :: f ∧ s' = { s with free := f, live := (i, t) :: s.live })
    | .enqueue i => ∃ t, tagOf s i = some t ∧ i ∉ s.pend ∧
        (s.err = true ∧ s' = { (s.release i t) with refused := i :: s.refused } ∨
         s.err = false ∧ s' = { s with pend := s.pend ++ [i] })
    | .deliver t p =>
        ((∀ i ∈ s.pend, tagOf s i ≠ some t) ∧ s' = { s with err := true, closed := true }) ∨
        (∃ i ∈ s.pend, tagOf s i = some t ∧
          s' = { s with pend := s.pend.erase i, woken := (i, some p) :: s.woken })
    | .fail => s' = { s with err := true, closed := true }
    | .fanout => ∃ i rest, s.pend = i :: rest ∧ s' = { s with pend := rest, woken := (i, none) :: s.woken }
    | .ret i => ∃ w t, w ∈ s.woken ∧ w.1 = i ∧ tagOf s i = some t ∧
        s' = { (s.release i t) with woken := s.woken.erase w } := by
  cases e <;> simp only [CS.step] at h ⊢
  case alloc i =>
    split at h
    · cases h
    split at h <;> cases h
    · exact ⟨_, .inl ⟨_, ‹_›, rfl⟩⟩
    · exact ⟨_, .inr ⟨_, ‹_›, ‹_›, rfl⟩⟩
  case enqueue i =>
    split at h
    · cases h
    split at h
    · cases h
    rename_i hn
    refine ⟨_, ‹_›, by simp only [Bool.or_eq_true, List.contains_iff_mem, not_or] at hn; exact hn.1, ?_⟩
    split at h <;> cases h
    · exact .inl ⟨‹_›, rfl⟩
    · exact .inr ⟨by simpa using ‹¬ s.err = true›, rfl⟩
  case deliver t p =>
    split at h
    · cases h
    split at h <;> cases h
    · rename_i hf
      exact .inl ⟨fun i hi e => List.find?_eq_none.1 hf i hi (beq_iff_eq.2 e), rfl⟩
    · rename_i hf
      exact .inr ⟨_, List.mem_of_find?_eq_some hf, by simpa using List.find?_some hf, rfl⟩
  case fail =>
    split at h <;> cases h
    rfl
  case fanout =>
    split at h
    · cases h
    split at h <;> cases h
    exact ⟨_, _, ‹_›, rfl⟩
  case ret i =>
    split at h <;> cases h
    rename_i hf _
    exact ⟨_, _, List.mem_of_find?_eq_some hf, by simpa using List.find?_some hf, ‹_›, rfl⟩

theorem step_woken {s s' : CS} {e : Ev} (h : s.step e = some s') :
    s'.woken = s.woken ∨
    (∃ t p i, e = .deliver t p ∧ tagOf s i = some t ∧ s'.woken = (i, some p) :: s.woken) ∨
    (∃ i, s'.woken = (i, none) :: s.woken) ∨
    (∃ i w, e = .ret i ∧ w.1 = i ∧ s'.woken = s.woken.erase w) := by
  have hs := step_some h
  cases e with
  | alloc i => obtain ⟨_, ⟨_, -, rfl⟩ | ⟨_, -, -, rfl⟩⟩ := hs <;> exact .inl rfl
  | enqueue i =>
    obtain ⟨_, -, -, ⟨-, rfl⟩ | ⟨-, rfl⟩⟩ := hs
    · exact .inl (release_woken ..)
    · exact .inl rfl
  | deliver t p =>
    obtain ⟨-, rfl⟩ | ⟨i, -, hi, rfl⟩ := hs
    · exact .inl rfl
    · exact .inr (.inl ⟨t, p, i, rfl, hi, rfl⟩)
  | fail => cases hs; exact .inl rfl
  | fanout => obtain ⟨i, _, -, rfl⟩ := hs; exact .inr (.inr (.inl ⟨i, rfl⟩))
  | ret i =>
    obtain ⟨w, _, -, hw, -, rfl⟩ := hs
    exact .inr (.inr (.inr ⟨i, w, rfl, hw, by simp⟩))

end G9.Clnt

namespace G9.C09
open G9.Clnt

/-- all tags currently accounted for: free, cached with a parked Req, or held by a call -/
def tags (s : CS) : List Nat := s.free ++ s.cache ++ s.live.map (·.2)

theorem release_tags (s : CS) (i t : Nat) (h : tagOf s i = some t) : (tags (s.release i t)).Perm (tags s) := by
  have hm : (s.live.map (·.2)).Perm (t :: (s.live.erase (i, t)).map (·.2)) :=
    (List.perm_cons_erase (tagOf_mem h)).map (·.2)
  refine .trans ?_ (hm.append_left _).symm
  unfold CS.release tags
  split
  · simp
  · simpa using List.perm_middle.symm.append_left s.free

theorem step_tags (s s' : CS) (e : Ev) (h : s.step e = some s') : (tags s').Perm (tags s) := by
  have hs := step_some h
  cases e with
  | alloc i =>
    obtain ⟨t, ⟨c, hc, rfl⟩ | ⟨f, hc, hf, rfl⟩⟩ := hs
    · simp only [tags, hc, List.map_cons, List.append_assoc]
      exact List.Perm.append_left _ List.perm_middle
    · simp only [tags, hc, hf, List.map_cons, List.append_nil]
      exact List.perm_middle
  | enqueue i =>
    obtain ⟨t, ht, -, ⟨-, rfl⟩ | ⟨-, rfl⟩⟩ := hs
    · exact release_tags s i t ht
    · exact .refl _
  | deliver t p => obtain ⟨-, rfl⟩ | ⟨_, -, -, rfl⟩ := hs <;> exact .refl _
  | fail => cases hs; exact .refl _
  | fanout => obtain ⟨_, _, -, rfl⟩ := hs; exact .refl _
  | ret i => obtain ⟨_, t, -, -, ht, rfl⟩ := hs; exact release_tags s i t ht

end G9.C09
