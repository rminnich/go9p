/-
  The two-step Rread (`InitRread`, the caller's copy, `SetTag`, `SetRreadCount`) on a buffer
  given by its parts: size[4] type[1] tag[2] count[4] window.
-/
import G9.Wire.Go
namespace G9

theorem setRreadCount_parts (sz mid cnt win : Bytes) (n : UInt32) (hs : sz.length = 4)
    (hm : mid.length = 3) (hc : cnt.length = 4) (hn : n.toNat ≤ win.length)
    (hsz : 11 + n.toNat < 4294967296) :
    Go.setRreadCount (sz ++ mid ++ cnt ++ win) n =
      .ok (p32 (UInt32.ofNat (11 + n.toNat)) ++ mid ++ p32 n ++ win.take n.toNat) := by
  have hsize : (4 + 1 + 2 + 4 + n : UInt32) = UInt32.ofNat (11 + n.toNat) := by
    apply UInt32.toNat_inj.mp
    rw [UInt32.toNat_add, UInt32.toNat_ofNat', Nat.mod_eq_of_lt hsz]
    exact Nat.mod_eq_of_lt hsz
  have hlen : (sz ++ mid ++ cnt ++ win).length = 11 + win.length := by
    simp only [List.length_append, hs, hm, hc]
  have h4 : ((sz ++ mid ++ cnt ++ win).drop 4).take 3 = mid := by
    rw [List.append_assoc, List.append_assoc, List.drop_left' hs, List.take_left' hm]
  have h11 : (sz ++ mid ++ cnt ++ win).drop 11 = win :=
    List.drop_left' (by simp only [List.length_append, hs, hm, hc])
  unfold Go.setRreadCount
  simp only [hsize, hlen, h4, h11, UInt32.toNat_ofNat', Nat.mod_eq_of_lt hsz]
  rw [if_neg (by omega), if_neg (by omega), if_neg (by omega)]
  have hp : (p32 (UInt32.ofNat (11 + n.toNat)) ++ mid ++ p32 n).length = 11 := by
    simp only [List.length_append, p32_length, hm]
  rw [List.take_append, List.take_of_length_le (by omega), hp, Nat.add_sub_cancel_left]

theorem fillData_rreadBuf (c : UInt32) (buf fill : Bytes) (hfill : fill.length = c.toNat) :
    Go.fillData (Go.rreadBuf c buf) c.toNat fill =
      p32 (UInt32.ofNat (11 + c.toNat)) ++ (p8 117 ++ p16 Generated.NOTAG) ++ p32 c ++
        (fill ++ buf.drop (11 + c.toNat)) := by
  have htk : fill.take c.toNat = fill := by rw [← hfill]; exact List.take_length
  have h11 : (p32 (UInt32.ofNat (11 + c.toNat)) ++ (p8 117 ++ p16 Generated.NOTAG) ++ p32 c).length = 11 := rfl
  have hA : Go.rreadBuf c buf =
      p32 (UInt32.ofNat (11 + c.toNat)) ++ (p8 117 ++ p16 Generated.NOTAG) ++ p32 c ++ buf.drop 11 := by
    simp only [Go.rreadBuf, List.append_assoc]
  unfold Go.fillData
  simp only [htk, hA, hfill]
  rw [List.take_left' h11, ← List.drop_drop, List.drop_left' h11, List.drop_drop, List.append_assoc]

/-- `SetTag` before `SetRreadCount`: bytes 5 and 6 -/
theorem tagBuf_parts (sz : Bytes) (ty : UInt8) (t0 t : UInt16) (cnt win : Bytes) (hs : sz.length = 4) :
    Go.tagBuf (sz ++ (p8 ty ++ p16 t0) ++ cnt ++ win) t = sz ++ (p8 ty ++ p16 t) ++ cnt ++ win := by
  have h5 : (sz ++ p8 ty).length = 5 := by simp only [List.length_append, hs, p8_length]
  have h7 : (sz ++ p8 ty ++ p16 t0).length = 7 := by simp only [List.length_append, hs, p8_length, p16_length]
  have e5 : sz ++ (p8 ty ++ p16 t0) ++ cnt ++ win = (sz ++ p8 ty) ++ (p16 t0 ++ (cnt ++ win)) := by
    simp only [List.append_assoc]
  have e7 : sz ++ (p8 ty ++ p16 t0) ++ cnt ++ win = (sz ++ p8 ty ++ p16 t0) ++ (cnt ++ win) := by
    simp only [List.append_assoc]
  unfold Go.tagBuf
  rw [e7, List.drop_left' h7, ← e7, e5, List.take_left' h5]
  simp only [List.append_assoc]

theorem rread_encode (dotu : Bool) (c n : UInt32) (fill tail : Bytes) (t : UInt16)
    (hrep : 11 + c.toNat < 4294967296) (hn : n.toNat ≤ c.toNat) (hfill : fill.length = c.toNat) :
    Go.setRreadCount (p32 (UInt32.ofNat (11 + c.toNat)) ++ (p8 117 ++ p16 t) ++ p32 c ++ (fill ++ tail)) n =
      .ok (Spec.encode dotu t (.rread (fill.take n.toNat))) := by
  rw [setRreadCount_parts _ _ _ _ n rfl rfl rfl (by rw [List.length_append]; omega) (by omega),
    List.take_append_of_le_length (by omega)]
  have hl : (fill.take n.toNat).length = n.toNat := by rw [List.length_take]; omega
  simp only [Spec.encode, Spec.body, Msg.code, List.length_append, p32_length, hl, UInt32.ofNat_toNat,
    List.append_assoc]
  rw [show 7 + (4 + n.toNat) = 11 + n.toNat by omega]

end G9
