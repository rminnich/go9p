/-
  The invariant of the fid-table model (G9.FidLife), kept by every event: per object (`Acct`) the count is
  what its owners account for and FidDestroy is called once, exactly when the count is zero; `OIx` ties an
  object to the table and to Conn.close's copy of it.
-/
import G9.FidLife
import G9Proofs.Lemmas.Run
namespace G9.FidLife

/-- the object an event works on alone: `unpool` also deletes the table entry, `visit` also moves the snapshot on -/
def objOf : FEv → Option Nat
  | .get o | .retain o | .inc o | .release o | .dec o | .dstr o | .call o => some o
  | _ => none

def objStep (closed : Bool) (x : FObj) : FEv → Option FObj
  | .get _ => if x.pending ∨ x.ref ≤ 0 then some x else some { x with ref := x.ref + 1, holds := x.holds + 1 }
  | .retain _ =>
    if x.pending = true ∧ 1 ≤ x.holds then
      if closed then some { x with pending := false }
      else some { x with ref := x.ref + 1, tbl := true, pending := false }
    else none
  | .inc _ => if 1 ≤ x.holds then some { x with ref := x.ref + 1, holds := x.holds + 1 } else none
  | .release _ => if x.tbl then some { x with tbl := false, holds := x.holds + 1 } else some x
  | .dec _ =>
    if 1 ≤ x.holds then
      let x1 : FObj := { x with ref := x.ref - 1, holds := x.holds - 1 }
      some (if x1.ref ≤ 0 then { x1 with dyA := x1.dyA + 1 } else x1)
    else none
  | .unpool _ => if 1 ≤ x.dyA then some { x with dyA := x.dyA - 1, dyB := x.dyB + 1 } else none
  | .dstr _ =>
    if 1 ≤ x.dyB then
      if x.destroyed then some { x with dyB := x.dyB - 1 }
      else some { x with dyB := x.dyB - 1, destroyed := true, calls := x.calls + 1 }
    else none
  | .call _ => if 1 ≤ x.calls then some { x with calls := x.calls - 1, nd := x.nd + 1 } else none
  | _ => none

theorem updO_self (f : Nat → FObj) (o : Nat) : updO f o (f o) = f := by
  funext j; by_cases h : j = o
  · rw [h, updO_same]
  · rw [updO_other _ _ _ _ h]

theorem setO_self (s : FS) (o : Nat) : setO s o (s.obj o) = s := by
  simp only [setO, updO_self]

theorem step_obj (s : FS) (e : FEv) (o : Nat) (he : objOf e = some o) :
    s.step e = if o < s.n then (objStep s.closed (s.obj o) e).map (setO s o) else none := by
  -- `FS.step` makes the same tests in the same order; where it returns `s` itself, `setO_self`
  cases e <;> cases he <;> simp only [FS.step, objStep] <;>
    by_cases ho : o < s.n <;> simp only [ho, true_and, false_and, if_true, if_false] <;>
    repeat' split
  all_goals first | rfl | simp only [Option.map_some, setO_self]

theorem step_n_le {s s' : FS} {e : FEv} (h : s.step e = some s') : s.n ≤ s'.n := by
  cases e <;> simp only [FS.step] at h <;> (repeat' split at h) <;> cases h <;>
    first | exact Nat.le_refl _ | exact Nat.le_succ _

/-- The count is what its owners account for; one call of FidDestroy, made or pending, per flag; the
    object is at one stage of DecRef's deletion and destroy() — before the deletion, before the flag
    region, or flagged — exactly when its count is zero. -/
def Acct (x : FObj) : Prop :=
  x.ref = (x.holds : Int) + (if x.tbl then 1 else 0) ∧
  x.nd + x.calls = (if x.destroyed then 1 else 0) ∧
  x.dyA + x.dyB + (if x.destroyed then 1 else 0) ≤ 1 ∧
  (1 ≤ x.dyA + x.dyB + (if x.destroyed then 1 else 0) ↔ x.ref ≤ 0)

/-- one object, given whether the table has it (`ip`) and where Conn.close is -/
structure OIx (x : FObj) (ip : Prop) (snap : Option (List Nat)) (o : Nat) : Prop where
  acct : Acct x
  -- being created: no table reference yet; in the table while its creator holds it
  pendTbl : x.pending = true → x.tbl = false
  pendPool : x.pending = true → 1 ≤ x.holds → ip
  -- the table's reference: in the table until Conn.close copies it, then in the copy until visited
  tblOpen : x.tbl = true → snap = none → ip
  tblSnap : x.tbl = true → ∀ l, snap = some l → o ∈ l

theorem OIx.mono_ip {x : FObj} {ip ip' : Prop} {snap : Option (List Nat)} {o : Nat}
    (himp : ip → ip') (h : OIx x ip snap o) : OIx x ip' snap o :=
  { h with pendPool := fun a b => himp (h.pendPool a b), tblOpen := fun a b => himp (h.tblOpen a b) }

theorem Acct.pos {x : FObj} (h : Acct x) (ho : x.tbl = true ∨ 1 ≤ x.holds) : 0 < x.ref := by
  have := h.1
  rcases ho with ht | hh
  · rw [if_pos ht] at this; omega
  · split at this <;> omega

theorem Acct.live {x : FObj} (h : Acct x) (hr : 0 < x.ref) :
    x.destroyed = false ∧ x.nd = 0 ∧ x.calls = 0 ∧ x.dyA = 0 ∧ x.dyB = 0 := by
  cases hd : x.destroyed <;> simp only [Acct, hd, Bool.false_eq_true, if_true, if_false] at h
  · exact ⟨rfl, by omega, by omega, by omega, by omega⟩
  · omega

theorem Acct.zero {x : FObj} (h : Acct x) (hr : x.ref ≤ 0) : x.holds = 0 ∧ x.tbl = false ∧ x.ref = 0 := by
  cases ht : x.tbl <;> simp only [Acct, ht, Bool.false_eq_true, if_true, if_false] at h
  · exact ⟨by omega, rfl, by omega⟩
  · omega

/-- `hcl`: Conn.close copies the table after it has closed `conn.done`, so a `retain` that finds it open, the one
    event that gives the table a reference, runs before there is a copy. -/
theorem objStep_inv {closed : Bool} {x v : FObj} {ip : Prop} {snap : Option (List Nat)} {o : Nat} {e : FEv}
    (h : OIx x ip snap o) (hcl : snap ≠ none → closed = true) (hs : objStep closed x e = some v) :
    OIx v ip snap o ∧ v.num = x.num := by
  have ha := h.acct
  simp only [Acct] at ha
  cases e <;> simp only [objStep] at hs
  case get =>
    split at hs <;> cases hs
    · exact ⟨h, rfl⟩
    · rename_i hg
      exact ⟨{ h with acct := by simp only [Acct]; omega
                      pendPool := fun hp => absurd (Or.inl hp) hg }, rfl⟩
  case retain =>
    split at hs
    · rename_i hg
      obtain ⟨hp, hh⟩ := hg
      split at hs <;> cases hs
      · exact ⟨{ h with pendTbl := nofun, pendPool := nofun }, rfl⟩
      · rename_i hc   -- `conn.done` is open: the table gets its reference
        exact ⟨{ acct := by simp only [Acct, h.pendTbl hp, Bool.false_eq_true, if_true, if_false] at ha ⊢; omega
                 pendTbl := nofun, pendPool := nofun
                 tblOpen := fun _ _ => h.pendPool hp hh
                 tblSnap := fun _ l hl => absurd (hcl (by rw [hl]; nofun)) hc }, rfl⟩
    · cases hs
  case inc =>
    split at hs <;> cases hs
    rename_i hg
    exact ⟨{ h with acct := by simp only [Acct]; omega, pendPool := fun hp _ => h.pendPool hp hg }, rfl⟩
  case release =>
    split at hs <;> cases hs
    · rename_i ht   -- the table's reference becomes the caller's
      exact ⟨{ acct := by simp only [Acct, ht, Bool.false_eq_true, if_true, if_false] at ha ⊢; omega
               pendTbl := fun _ => rfl
               pendPool := fun hp => (by rw [h.pendTbl hp] at ht; cases ht)
               tblOpen := nofun, tblSnap := nofun }, rfl⟩
    · exact ⟨h, rfl⟩
  case dec =>
    split at hs <;> cases hs
    rename_i hg
    split
    · -- the count falls to zero: the caller was the last holder (`ha`), so `pendPool` is vacuous
      exact ⟨{ h with acct := by simp only [Acct]; omega
                      pendPool := fun _ hh => (by simp only at hh; omega) }, rfl⟩
    · exact ⟨{ h with acct := by simp only [Acct]; omega, pendPool := fun hp _ => h.pendPool hp hg }, rfl⟩
  -- `unpool`, `dstr`, `call` only move the object along its way to FidDestroy
  case unpool =>
    split at hs <;> cases hs
    exact ⟨{ h with acct := by simp only [Acct]; omega }, rfl⟩
  case dstr =>
    split at hs
    · rename_i hg
      split at hs <;> cases hs <;> rename_i hd <;>
        exact ⟨{ h with acct := by simp only [Acct, hd, if_true] at ha ⊢; omega }, rfl⟩
    · cases hs
  case call =>
    split at hs <;> cases hs
    exact ⟨{ h with acct := by simp only [Acct]; omega }, rfl⟩
  all_goals cases hs

def OI (s : FS) (o : Nat) : Prop := OIx (s.obj o) (s.inpool o) s.snap o

structure Inv (s : FS) : Prop where
  -- `hcl` of `objStep_inv`
  snapClosed : s.snap ≠ none → s.closed = true
  -- table entries exist, each under its own number
  poolOk : ∀ k o, s.pool k = some o → o < s.n ∧ (s.obj o).num = k
  objs : ∀ o, o < s.n → OI s o

theorem inv_init : Inv FS.init :=
  ⟨fun h => absurd rfl h, nofun, nofun⟩

/-! Every event but `new`, `snapshot`, `closeDone` is made of three moves that keep `Inv`: a record moves
    on, the table forgets a dead object, Conn.close moves past a fid it need not release. -/

theorem updO_num {f : Nat → FObj} {o j : Nat} {v : FObj} (hnum : j = o → v.num = (f o).num) :
    (updO f o v j).num = (f j).num := by
  unfold updO
  split
  · rename_i h; rw [h, hnum h]
  · rfl

theorem updP_keep {p : Nat → Option Nat} {k j o : Nat} (v : Option Nat) (hk : p k ≠ some o)
    (h : p j = some o) : updP p k v j = some o := by
  rw [updP_other p k j v fun e => hk (e ▸ h)]; exact h

theorem Inv.set_obj {s : FS} {o : Nat} {v : FObj} (hi : Inv s)
    (hv : o < s.n → OIx v (s.inpool o) s.snap o ∧ v.num = (s.obj o).num) : Inv (setO s o v) := by
  have hnum : ∀ o', o' < s.n → (updO s.obj o v o').num = (s.obj o').num := fun o' ho' =>
    updO_num fun he => (hv (he ▸ ho')).2
  refine ⟨hi.snapClosed, fun k o' hp => ?_, fun o' ho' => ?_⟩
  · obtain ⟨h1, h2⟩ := hi.poolOk k o' hp
    exact ⟨h1, (hnum o' h1).trans h2⟩
  · show OIx (updO s.obj o v o') (s.pool (updO s.obj o v o').num = some o') s.snap o'
    rw [hnum o' ho']
    by_cases he : o' = o
    · rw [he, updO_same]; exact (hv (he ▸ ho')).1
    · rw [updO_other _ _ _ _ he]; exact hi.objs o' ho'

/-- with a count of zero the clauses that speak of the table are vacuous -/
theorem Inv.del_pool {s : FS} {k o : Nat} (hi : Inv s) (hp : s.pool k = some o) (hz : (s.obj o).ref ≤ 0) :
    Inv { s with pool := updP s.pool k none } := by
  refine ⟨hi.snapClosed, fun k' o' hp' => hi.poolOk k' o' ?_, fun o' ho' => ?_⟩
  · by_cases hk : k' = k
    · rw [hk] at hp'; cases (updP_same s.pool k none).symm.trans hp'
    · exact (updP_other _ _ _ _ hk).symm.trans hp'
  · have h0 := hi.objs o' ho'
    by_cases he : o' = o
    · obtain ⟨hh, ht, -⟩ := h0.acct.zero (he ▸ hz)
      exact { h0 with
        pendPool := fun _ (h1 : 1 ≤ (s.obj o').holds) => (by omega)
        tblOpen := fun h1 => (by rw [ht] at h1; cases h1) }
    · exact h0.mono_ip (updP_keep none fun e => he (Option.some.inj (e.symm.trans hp)))

theorem Inv.snap_tail {s : FS} {o : Nat} {rest : List Nat} (hi : Inv s) (hs : s.snap = some (o :: rest))
    (ht : o < s.n → (s.obj o).tbl = false) : Inv { s with snap := some rest } := by
  refine ⟨fun _ => hi.snapClosed (by rw [hs]; nofun), hi.poolOk, fun o' ho' => ?_⟩
  have h0 := hi.objs o' ho'
  exact { h0 with
    tblOpen := nofun
    tblSnap := fun ht' l hl => by
      cases hl
      rcases List.mem_cons.mp (h0.tblSnap ht' _ hs) with hm | hm
      · rw [hm, ht (hm ▸ ho')] at ht'; cases ht'
      · exact hm }

theorem inv_step (s s' : FS) (e : FEv) (hi : Inv s) (h : s.step e = some s') : Inv s' := by
  cases he : objOf e with
  | some o =>
    rw [step_obj s e o he] at h
    split at h
    · rename_i ho
      cases hv : objStep s.closed (s.obj o) e with
      | none => rw [hv] at h; cases h
      | some v =>
        rw [hv] at h; cases h
        exact hi.set_obj fun _ => objStep_inv (hi.objs o ho) hi.snapClosed hv
    · cases h
  | none =>
  cases e with
  | get | retain | inc | release | dec | dstr | call => cases he
  | look k r =>
    simp only [FS.step] at h
    split at h <;> cases h
    exact hi
  | closeDone =>
    simp only [FS.step] at h
    split at h <;> cases h
    exact ⟨fun _ => rfl, hi.poolOk, hi.objs⟩
  | snapshot l =>
    simp only [FS.step] at h
    split at h <;> cases h
    rename_i hc
    obtain ⟨hcl, hsn, -, -, hcompl⟩ := hc
    exact ⟨fun _ => hcl, hi.poolOk, fun o ho =>
      { hi.objs o ho with
        tblOpen := nofun
        tblSnap := fun ht l' hl => (by cases hl; exact hcompl o ho ((hi.objs o ho).tblOpen ht hsn)) }⟩
  | new k =>
    simp only [FS.step] at h
    split at h <;> cases h
    rename_i hfree
    refine ⟨hi.snapClosed, fun k' o hp => ?_, fun o ho => ?_⟩
    · dsimp only at hp ⊢
      by_cases hk : k' = k
      · subst hk; rw [updP_same] at hp; cases hp
        exact ⟨Nat.lt_succ_self _, by rw [updO_same]⟩
      · rw [updP_other _ _ _ _ hk] at hp
        obtain ⟨h1, h2⟩ := hi.poolOk k' o hp
        exact ⟨Nat.lt_succ_of_lt h1, by rw [updO_other _ _ _ _ (Nat.ne_of_lt h1)]; exact h2⟩
    · unfold OI FS.inpool
      dsimp only at ho ⊢
      by_cases he : o = s.n
      · rw [he, updO_same]
        -- the defaults of `FObj`: count 1, held once, pending, no table reference
        exact ⟨by simp [Acct], fun _ => rfl, fun _ _ => updP_same _ _ _, nofun, nofun⟩
      · rw [updO_other _ _ _ _ he]
        exact (hi.objs o (by omega)).mono_ip (updP_keep _ (by rw [hfree]; nofun))
  | unpool o =>
    simp only [FS.step] at h
    split at h
    · rename_i hc
      have h0 := hi.objs o hc.1
      have hv : objStep s.closed (s.obj o) (.unpool o) = some _ := if_pos hc.2
      split at h <;> cases h
      · -- count zero: the table forgets the object, then its record moves on
        have hi2 := hi.del_pool ‹_› (by have ha := h0.acct; simp only [Acct] at ha; omega)
        exact hi2.set_obj fun ho => objStep_inv (hi2.objs o ho) hi2.snapClosed hv
      · exact hi.set_obj fun _ => objStep_inv h0 hi.snapClosed hv
    · cases h
  | visit =>
    simp only [FS.step] at h
    split at h
    · rename_i o rest hs
      split at h <;> cases h
      · rename_i hc
        -- a `release`, then past the head
        have hv : objStep s.closed (s.obj o) (.release o) = some _ := if_pos hc.2
        refine (hi.set_obj fun ho => objStep_inv (hi.objs o ho) hi.snapClosed hv).snap_tail hs fun _ => ?_
        show (updO _ _ _ _).tbl = false
        rw [updO_same]
      · rename_i hc
        refine hi.snap_tail hs fun ho => ?_
        cases hp : (s.obj o).pending with
        | false => exact Bool.eq_false_iff.2 fun ht => hc ⟨hp, ht⟩
        | true => exact (hi.objs o ho).pendTbl hp
    · cases h

theorem FS.isRun : Run.Of FS.step FS.run := ⟨fun _ => rfl, fun _ _ _ => rfl⟩

theorem inv_run (es : List FEv) (s s' : FS) (hi : Inv s) (h : s.run es = some s') : Inv s' :=
  FS.isRun.inv inv_step es s s' hi h

end G9.FidLife
