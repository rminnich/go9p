/-
  The pre-reply part of a request (`Srv.pre`): one case analysis of the definition, `pre_cases`, sorts
  everything it can do into eight cases by the effect on the fid table; reference counts, users, msize
  and the set of valid fids follow from the eight cases.
-/
import G9Proofs.Lemmas.Users
namespace G9.Srv

/-- the fid number a request asks to create -/
def newFid : Msg → Option UInt32
  | .tauth afid _ _ _ => some afid
  | .tattach fid _ _ _ _ => some fid
  | .twalk _ nf _ => some nf
  | _ => none

theorem newFid_of_newBy {cfg : Cfg} {c : Conn} {t : Msg} {k : UInt32} {u : Nat} (h : NewBy cfg c t k u) :
    newFid t = some k := by
  cases t <;> first | exact congrArg some h.1.symm | exact h.elim

/-- the framework itself refused the request -/
def Mid.refused (m : Mid) : Prop := ∃ e, m.pre = .refuse e

/-- the prologue of the messages that carry a fid (`msgFid`): NOFID or unknown is refused, a known
    fid goes on to the handler -/
theorem fid_unknown {c : Conn} {f : UInt32} {A : Mid} {body : FidRec → Mid}
    (h : lookup c.fids f = none ∨ f = NOFID) :
    (if (f == NOFID) = true then A else
      match lookup c.fids f with
      | none => A
      | some r => body r) = A := by
  by_cases hf : (f == NOFID) = true
  · rw [if_pos hf]
  · rw [if_neg hf]
    rcases h with hl | hn
    · rw [hl]
    · exact absurd (beq_iff_eq.2 hn) hf

theorem fid_known {c : Conn} {f : UInt32} {r : FidRec} {A : Mid} {body : FidRec → Mid}
    (hf : f ≠ NOFID) (hl : lookup c.fids f = some r) :
    (if (f == NOFID) = true then A else
      match lookup c.fids f with
      | none => A
      | some r => body r) = body r := by
  rw [if_neg (fun h => hf (beq_iff_eq.1 h)), hl]

/-- the prologue of Tauth and Tattach: `FidNew` refuses a number that is taken -/
theorem bind_taken {c : Conn} {k : UInt32} {r : FidRec} {A B : Mid} {body : Fids → Mid}
    (hk : k ≠ NOFID) (hl : lookup c.fids k = some r) :
    (if (k == NOFID) = true then A else
      match fidNew c.fids k 0 with
      | none => B
      | some fs => body fs) = B := by
  rw [if_neg (fun h => hk (beq_iff_eq.1 h)), (fidNew_none c.fids k 0).2 (by rw [hl]; rfl)]

def Inert (g : FidRec → FidRec) : Prop := ∀ x, (g x).ref = x.ref ∧ (g x).user = x.user

/-- What `pre` does, by its effect on the fid table: nothing (`nofid`: Tversion, Tflush; `refused`);
    `FidGet` of the fid the message carries (`get`), twice for a walk in place (`walkSame`), with `FidNew`
    of the new fid for a walk to another number (`walkNew`); `FidNew` of the fid a Tauth/Tattach binds
    (`bindRefused`, `bind`) and `FidGet` of the afid (`bindAfid`).  Beyond that it writes only fields other
    than `ref` and `user` of a fid it holds, and the user of the fid it binds. -/
inductive PreCase (cfg : Cfg) (c : Conn) (t : Msg) : Mid → Prop
  | nofid (c' p) (hm : msgFid t = none) (hn : newFid t = none) (hc : c'.fids = c.fids)
      (hv : (∀ ms v, t ≠ .tversion ms v) → c' = c) : PreCase cfg c t ⟨c', [], p⟩
  | refused (e) (hu : ∀ f, msgFid t = some f → f = NOFID ∨ lookup c.fids f = none) :
      PreCase cfg c t ⟨c, [], .refuse e⟩
  -- `hp`: a Twalk, which also names a fid to create, comes here only when refused before creating it
  | get (f r g p) (hm : msgFid t = some f) (hl : lookup c.fids f = some r) (hg : Inert g)
      (hp : (∃ e, p = .refuse e) ∨ newFid t = none) :
      PreCase cfg c t ⟨{ c with fids := modFid (incRef c.fids f) f g }, [f], p⟩
  | walkSame (f r p) (hm : msgFid t = some f) (hn : newFid t = some f) (hl : lookup c.fids f = some r) :
      PreCase cfg c t ⟨{ c with fids := incRef (incRef c.fids f) f }, [f, f], p⟩
  | walkNew (f nf r fs g p) (hm : msgFid t = some f) (hl : lookup c.fids f = some r)
      (hne : nf ≠ f) (hnn : nf ≠ NOFID) (hnew : fidNew (incRef c.fids f) nf r.user = some fs)
      (hb : NewBy cfg c t nf r.user) (hg : Inert g) :
      PreCase cfg c t ⟨{ c with fids := modFid fs nf g }, [f, nf], p⟩
  | bindRefused (k fs e) (hnew : fidNew c.fids k 0 = some fs) :
      PreCase cfg c t ⟨{ c with fids := fs }, [k], .refuse e⟩
  | bind (k fs u g p) (hm : msgFid t = none) (hb : NewBy cfg c t k u) (hk : k ≠ NOFID)
      (hnew : fidNew c.fids k 0 = some fs) (hg : ∀ x, (g x).ref = x.ref ∧ (g x).user = u) :
      PreCase cfg c t ⟨{ c with fids := modFid fs k g }, [k], p⟩
  | bindAfid (k afid ar fs u g p) (hm : msgFid t = none) (hb : NewBy cfg c t k u) (hk : k ≠ NOFID)
      (hnew : fidNew c.fids k 0 = some fs) (hg : ∀ x, (g x).ref = x.ref ∧ (g x).user = u)
      (hla : lookup fs afid = some ar) :
      PreCase cfg c t ⟨{ c with fids := modFid (incRef fs afid) k g }, [k, afid], p⟩

variable {cfg : Cfg} {c : Conn} {t : Msg} {m : Mid}

theorem PreCase.get_id (f r p) (hm : msgFid t = some f) (hl : lookup c.fids f = some r)
    (hp : (∃ e, p = .refuse e) ∨ newFid t = none) :
    PreCase cfg c t ⟨{ c with fids := incRef c.fids f }, [f], p⟩ := by
  have := PreCase.get (cfg := cfg) f r (fun x => x) p hm hl (fun _ => ⟨rfl, rfl⟩) hp
  rwa [modFid_id] at this

theorem PreCase.refused_nofid (e) (hm : msgFid t = none) : PreCase cfg c t ⟨c, [], .refuse e⟩ :=
  .refused e (fun f hf => by rw [hm] at hf; cases hf)

theorem pre_cases (cfg : Cfg) (impl : Impl) (c : Conn) (t : Msg) : PreCase cfg c t (pre cfg impl c t) := by
  have nofid : ∀ {k : UInt32}, ¬ (k == NOFID) = true → k ≠ NOFID := fun h e => h (beq_iff_eq.2 e)
  -- `iteInduction` throughout: on terms of this size `split` costs twenty times as much
  -- the prologue; `leaf`: the handler ends holding `f`, the table as `FidGet` left it
  have fid : ∀ {t f} {body : FidRec → Mid}, msgFid t = some f →
      (∀ r, lookup c.fids f = some r →
        (∀ p, (∃ e, p = .refuse e) ∨ newFid t = none →
          PreCase cfg c t ⟨{ c with fids := incRef c.fids f }, [f], p⟩) → PreCase cfg c t (body r)) →
      PreCase cfg c t (if (f == NOFID) = true then ⟨c, [], .refuse .unknownfid⟩ else
        match lookup c.fids f with
        | none => ⟨c, [], .refuse .unknownfid⟩
        | some r => body r) := by
    intro t f body hm hb
    have unk : f = NOFID ∨ lookup c.fids f = none → PreCase cfg c t ⟨c, [], .refuse .unknownfid⟩ :=
      fun h => .refused _ (fun f' hf' => by rw [hm] at hf'; cases hf'; exact h)
    refine iteInduction (fun h => unk (.inl (beq_iff_eq.1 h))) (fun h => ?_)
    cases hl : lookup c.fids f with
    | none => exact unk (.inr hl)
    | some r => exact hb r hl (fun p hp => .get_id f r p hm hl hp)
  unfold pre
  cases t with
  | tversion ms v =>
    exact iteInduction (fun _ => .refused_nofid _ rfl) (fun _ => .nofid _ _ rfl rfl rfl (fun h => absurd rfl (h ms v)))
  | tflush o => exact .nofid _ _ rfl rfl rfl (fun _ => rfl)
  | tstat f | twstat f _ | tremove f => exact fid rfl fun r hl leaf => leaf _ (.inr rfl)
  | tclunk f =>
    refine fid rfl (fun r hl leaf => ?_)
    replace leaf := fun p => leaf p (.inr rfl)
    exact iteInduction (fun _ => iteInduction (fun _ => leaf _) fun _ => leaf _) fun _ => leaf _  -- an authentication fid
  | twrite f _ _ _ =>
    refine fid rfl (fun r hl leaf => ?_)
    replace leaf := fun p => leaf p (.inr rfl)
    exact
      iteInduction (fun _ => iteInduction (fun _ => leaf _) fun _ => leaf _) fun _ =>  -- an authentication fid
      iteInduction (fun _ => leaf _) fun _ =>                                           -- not open for writing
      iteInduction (fun _ => leaf _) fun _ => leaf _                                    -- the count is too large
  | topen f _ =>
    refine fid rfl (fun r hl leaf => ?_)
    replace leaf := fun p => leaf p (.inr rfl)
    exact
      iteInduction (fun _ => leaf _) fun _ =>   -- open already
      iteInduction (fun _ => leaf _) fun _ =>   -- a directory, other than for reading
      .get f r _ _ rfl hl (fun _ => ⟨rfl, rfl⟩) (.inr rfl)   -- `omode` is recorded
  | tcreate f _ _ _ _ =>
    refine fid rfl (fun r hl leaf => ?_)
    replace leaf := fun p => leaf p (.inr rfl)
    exact
      iteInduction (fun _ => leaf _) fun _ =>   -- open
      iteInduction (fun _ => leaf _) fun _ =>   -- not a directory
      iteInduction (fun _ => leaf _) fun _ =>   -- a directory, with a mode other than OREAD
      iteInduction (fun _ => leaf _) fun _ =>   -- a special file
      .get f r _ _ rfl hl (fun _ => ⟨rfl, rfl⟩) (.inr rfl)   -- `omode` is recorded
  | tread f o cnt =>
    refine fid rfl (fun r hl leaf => ?_)
    replace leaf := fun p => leaf p (.inr rfl)
    refine
      iteInduction (fun _ => leaf _) fun _ =>                                             -- the count is too large
      iteInduction (fun _ => iteInduction (fun _ => leaf _) fun _ => leaf _) fun _ => ?_  -- an authentication fid
    -- the offset of a directory read is recorded
    by_cases hd : isDir r = true
    · rw [if_pos hd]; exact .get f r _ _ rfl hl (fun _ => ⟨rfl, rfl⟩) (.inr rfl)
    · rw [if_neg hd]; exact leaf _
  | twalk f nf names =>
    refine fid rfl (fun r hl leaf => ?_)
    have no := fun e => leaf (.refuse e) (.inl ⟨e, rfl⟩)
    refine
      iteInduction (fun _ => no _) fun _ =>       -- by name from a non-directory
      iteInduction (fun _ => no _) fun _ =>       -- from an open fid
      iteInduction (fun hne => ?_) fun hne => ?_  -- to another number, or in place
    · refine iteInduction (fun _ => no _) (fun hnn => ?_)
      cases hnew : fidNew (incRef c.fids f) nf r.user with
      | none => exact no _
      | some fs =>
        exact .walkNew f nf r fs _ _ rfl hl (fun e => bne_iff_ne.1 hne e.symm) (nofid hnn) hnew
          ⟨rfl, userAt_of_lookup hl⟩ (fun _ => ⟨rfl, rfl⟩)
    · have : f = nf := Decidable.byContradiction (fun e => hne (bne_iff_ne.2 e))
      subst this
      exact .walkSame f r _ rfl rfl hl
  | tauth afid un an n =>
    refine iteInduction (fun _ => .refused_nofid _ rfl) (fun hk => ?_)
    cases hnew : fidNew c.fids afid 0 with
    | none => exact .refused_nofid _ rfl
    | some fs =>
      cases hu : userOf cfg c un n with
      | none => exact .bindRefused afid fs _ hnew
      | some u =>
        -- whatever the implementation answers
        refine iteInduction (fun _ => ?_) (fun _ => ?_)
        dsimp only; split
        all_goals exact .bind afid fs u _ _ rfl ⟨rfl, hu⟩ (nofid hk) hnew (fun _ => ⟨rfl, rfl⟩)
  | tattach fid afid un an n =>
    refine iteInduction (fun _ => .refused_nofid _ rfl) (fun hk => ?_)
    cases hnew : fidNew c.fids fid 0 with
    | none => exact .refused_nofid _ rfl
    | some fs =>
      cases hu : userOf cfg c un n with
      | none => exact .bindRefused fid fs _ hnew
      | some u =>
        -- both branches end in `go` (authentication check, if any, then attach)
        refine iteInduction (fun _ => ?_) (fun _ => ?_)
        · cases hla : (if afid == fid then none else lookup fs afid) with
          | none => exact .bindRefused fid fs _ hnew
          | some ar =>
            have hla : lookup fs afid = some ar := by
              split at hla
              · cases hla
              · exact hla
            refine iteInduction (fun _ => ?_) (fun _ => ?_)
            dsimp only; split
            all_goals exact .bindAfid fid afid ar fs u _ _ rfl ⟨rfl, hu⟩ (nofid hk) hnew (fun _ => ⟨rfl, rfl⟩) hla
        · refine iteInduction (fun _ => ?_) (fun _ => ?_)
          dsimp only; split
          all_goals exact .bind fid fs u _ _ rfl ⟨rfl, hu⟩ (nofid hk) hnew (fun _ => ⟨rfl, rfl⟩)
  | _ => exact .refused_nofid _ rfl

theorem PreCase.refs (h : PreCase cfg c t m) : Adds c.fids m.held m.c.fids := by
  cases h with
  | nofid c' p _ _ hc _ => exact hc ▸ Adds.refl _
  | refused e _ => exact .refl _
  | get f r g p _ hl hg _ => exact (adds_incRef hl).trans (adds_modFid fun x => (hg x).1)
  | walkSame f r p _ _ hl =>
    have hl2 : lookup (incRef c.fids f) f = some { r with ref := r.ref + 1 } := by
      rw [lookup_incRef, if_pos rfl, hl]; rfl
    exact (adds_incRef hl).trans (adds_incRef hl2)
  | walkNew f nf r fs g p _ hl _ _ hnew _ hg =>
    exact ((adds_incRef hl).trans (adds_fidNew hnew)).trans (adds_modFid fun x => (hg x).1)
  | bindRefused k fs e hnew => exact adds_fidNew hnew
  | bind k fs u g p _ _ _ hnew hg => exact (adds_fidNew hnew).trans (adds_modFid fun x => (hg x).1)
  | bindAfid k afid ar fs u g p _ _ _ hnew hg hla =>
    exact ((adds_fidNew hnew).trans (adds_incRef hla)).trans (adds_modFid fun x => (hg x).1)

theorem PreCase.of_empty (h : PreCase cfg c t m) (he : m.held = []) {f : UInt32} (hm : msgFid t = some f) :
    f = NOFID ∨ lookup c.fids f = none := by
  cases h with
  | nofid _ _ h0 => rw [h0] at hm; cases hm
  | refused e hu => exact hu f hm
  | _ => cases he

theorem PreCase.of_answer (h : PreCase cfg c t m) {calls a} (ha : m.pre = .answer calls a) :
    (∀ f, msgFid t = some f → f ∈ m.held ∧ present c.fids f) ∧
    (∀ k, newFid t = some k → msgFid t ≠ some k → k ∈ m.held ∧ lookup c.fids k = none ∧ k ≠ NOFID) := by
  -- the fid named is the one `FidGet` found, the first the request holds
  have named : ∀ {f r l}, msgFid t = some f → lookup c.fids f = some r → ∀ f', msgFid t = some f' →
      f' ∈ f :: l ∧ present c.fids f' :=
    fun hm hl f' hm' => by cases hm.symm.trans hm'; exact ⟨List.mem_cons_self, present_of_lookup hl⟩
  cases h with
  | nofid _ _ hm0 hn0 => exact ⟨fun f hm => (by cases hm0.symm.trans hm), fun k hn => (by cases hn0.symm.trans hn)⟩
  | refused e _ => cases ha
  | bindRefused => cases ha
  | get f r g p hm hl _ hp =>
    refine ⟨named hm hl, fun k hn => ?_⟩
    rcases hp with ⟨e, rfl⟩ | hn0
    · cases ha
    · cases hn0.symm.trans hn
  | walkSame f r p hm hn hl => exact ⟨named hm hl, fun k hn' hk => absurd (hm.trans (hn.symm.trans hn')) hk⟩
  | walkNew f nf r fs g p hm hl hne hnn hnew hb _ =>
    refine ⟨named hm hl, fun k hn _ => ?_⟩
    cases (newFid_of_newBy hb).symm.trans hn
    have := (fidNew_some hnew).1
    rw [lookup_incRef, if_neg hne] at this
    exact ⟨List.mem_cons_of_mem _ List.mem_cons_self, this, hnn⟩
  | bind k fs u g p hm hb hk hnew _ | bindAfid k afid ar fs u g p hm hb hk hnew _ =>
    refine ⟨fun f hm' => (by cases hm.symm.trans hm'), fun k' hn _ => ?_⟩
    cases (newFid_of_newBy hb).symm.trans hn
    exact ⟨List.mem_cons_self, (fidNew_some hnew).1, hk⟩

theorem PreCase.users (h : PreCase cfg c t m) :
    (∀ k, userAt m.c.fids k = userAt c.fids k) ∨
    ∃ k u, Binds c.fids k u m.c.fids ∧ (m.refused ∨ NewBy cfg c t k u) := by
  cases h with
  | nofid c' p _ _ hc _ => exact .inl fun k => congrArg (userAt · k) hc
  | refused e _ => exact .inl fun _ => rfl
  | get f r g p _ _ hg _ =>
    exact .inl fun k => (userAt_modFid_keep _ _ _ _ fun x => (hg x).2).trans (userAt_incRef _ _ _)
  | walkSame f r p => exact .inl fun k => (userAt_incRef _ _ _).trans (userAt_incRef _ _ _)
  | walkNew f nf r fs g p _ _ _ _ hnew hb hg =>
    -- `incRef` of `f` before the new binding, the handler's writes to `nf` after it
    have hbs : Binds c.fids nf r.user (modFid fs nf g) :=
      ((binds_fidNew hnew).after (userAt_incRef _ _)).then fun k => userAt_modFid_keep _ _ k _ fun x => (hg x).2
    exact .inr ⟨nf, r.user, hbs, .inr hb⟩
  | bindRefused k fs e hnew => exact .inr ⟨k, 0, binds_fidNew hnew, .inl ⟨e, rfl⟩⟩
  | bind k fs u g p _ hb _ hnew hg => exact .inr ⟨k, u, (binds_fidNew hnew).set fun x => (hg x).2, .inr hb⟩
  | bindAfid k afid ar fs u g p _ hb _ hnew hg =>
    exact .inr ⟨k, u, ((binds_fidNew hnew).then (userAt_incRef _ _)).set fun x => (hg x).2, .inr hb⟩

theorem PreCase.msize (h : PreCase cfg c t m) (ht : ∀ ms v, t ≠ .tversion ms v) :
    m.c.msize = c.msize ∧ m.c.dotu = c.dotu := by
  cases h with
  | nofid c' p _ _ _ hv => rw [hv ht]; exact ⟨rfl, rfl⟩
  | _ => exact ⟨rfl, rfl⟩

end G9.Srv
