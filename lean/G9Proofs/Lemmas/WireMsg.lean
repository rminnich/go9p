/-
  The decoder on what the protocol's encoder wrote: `Unpack` gives the message back.
-/
import G9Proofs.Lemmas.WirePack
namespace G9
open Go

-- `simp` runs the decoder from the front (see `Res.bind_congr`)
attribute [local congr] Res.bind_congr

/-- a stat record is at least as long as `UnpackDir` asks for -/
theorem stat_length_ge (dotu : Bool) (d : Stat) :
    (if dotu = true then 49 + 14 else 49) ≤ (Spec.stat dotu d).length := by
  rw [stat_length]; unfold statsz; split <;> omega

/-- whatever its size[2] says: the decoder does not look at it -/
theorem gstat_statBody (dotu : Bool) (sz : UInt16) (d : Stat) (r : Bytes) (h : Spec.statStrOk dotu d) :
    gstat dotu (p16 sz ++ Spec.statBody dotu d ++ r) = .ok (normStat dotu d, r) := by
  obtain ⟨hn, hu, hg, hm, he⟩ := h
  have hl : ¬ (p16 sz ++ Spec.statBody dotu d ++ r).length < 41 := by
    have := statBody_length dotu d
    simp only [List.length_append, p16_length, this, statsz]; omega
  unfold gstat
  rw [if_neg hl]
  cases dotu
  · simp only [Spec.statBody, List.append_assoc, gint16_p16, gint32_p32, gint64_p64,
      gqid_qid, gstr_str _ hn, gstr_str _ hu, gstr_str _ hg, gstr_str _ hm, normStat,
      Res.ok_bind, Res.pure_eq, Bool.false_eq_true, if_false, List.append_nil]
  · simp only [Spec.statBody, List.append_assoc, gint16_p16, gint32_p32, gint64_p64,
      gqid_qid, gstr_str _ hn, gstr_str _ hu, gstr_str _ hg, gstr_str _ hm,
      gstr_str _ (he rfl), normStat, Res.ok_bind, Res.pure_eq, if_true, List.length_append, p32_length]
    rw [if_neg (by omega)]

theorem gstat_stat (dotu : Bool) (d : Stat) (r : Bytes) (h : Spec.statStrOk dotu d) :
    gstat dotu (Spec.stat dotu d ++ r) = .ok (normStat dotu d, r) :=
  gstat_statBody dotu _ d r h

/-- the messages whose data is whatever is left of the body -/
def isData : Msg → Bool
  | .rread _ => true
  | .twrite .. => true
  | _ => false

-- `simp` runs the decoder over the layout: each reader meets the bytes of its printer
attribute [local simp] unpackBody Msg.code Spec.body norm gint8_p8 gint16_p16
  gint32_p32 gint64_p64 gqid_qid gstr_str gstat_stat in
/-- `norm`: Go's defaults for what the dialect does not carry -/
theorem unpackBody_body (dotu : Bool) (m : Msg) (r : Bytes) (h : Spec.RepW dotu m)
    (hr : isData m = true → r = []) :
    unpackBody dotu m.code (Spec.body dotu m ++ r) = .ok (norm dotu m, r) := by
  obtain ⟨hsz, h⟩ := h
  cases m <;> simp only [Spec.strOk] at h
  -- the counted and the data-carrying shapes have a guard of their own to pass
  case twalk f nf ns =>
    have := strs_length ns
    simp [u16_toNat_of_lt _ h.1, gstrs_strs ns r h.2]
    omega
  case rwalk qs => simp [u16_toNat_of_lt _ h, gqids_qids, qids_length]
  case rread d =>
    obtain rfl := hr rfl
    have hl : d.length < 4294967296 := by simp only [Spec.body, List.length_append] at hsz; omega
    simp [u32_toNat_of_lt _ hl, need]
  case twrite f o c d =>
    obtain rfl := hr rfl
    simp [h, need]
  -- cleared so that `simp [*]` does not take the size bound for a rewrite rule (slower with it)
  all_goals clear hsz
  case tcreate => cases dotu <;> simp [*] <;> omega
  case tauth | tattach | rerror | rstat | twstat => cases dotu <;> simp [*]
  all_goals simp [*]

theorem code_range (m : Msg) : ¬ (m.code.toNat < Generated.Tversion ∨ m.code.toNat ≥ Generated.Tlast) := by
  cases m <;> simp [Msg.code, Generated.Tversion, Generated.Tlast]

/-- the table entry for a message's type never exceeds the body of any encoding of it. -/
theorem minSize_le_body (dotu : Bool) (m : Msg) :
    ∃ v, minSize dotu m.code = .ok v ∧ v ≤ (Spec.body dotu m).length := by
  rw [body_length]
  -- the size formula is written out, the table is looked up by evaluation
  cases m <;> cases dotu <;>
    simp only [Msg.code, packParts, statsz, if_true, Bool.false_eq_true, if_false] <;>
    exact ⟨_, rfl, by omega⟩

theorem unpack_encode_repW (dotu : Bool) (tag : UInt16) (m : Msg) (rest : Bytes) (h : Spec.RepW dotu m) :
    unpack dotu (Spec.encode dotu tag m ++ rest) =
      .ok (tag, norm dotu m, (Spec.encode dotu tag m).length) := by
  have hs := u32_toNat_of_lt _ h.1
  obtain ⟨v, hv, hvle⟩ := minSize_le_body dotu m
  have hb := unpackBody_body dotu m [] h (fun _ => rfl)
  rw [List.append_nil] at hb
  unfold unpack
  rw [if_neg (by rw [List.length_append, encode_length]; omega)]
  simp only [Spec.encode, List.append_assoc, gint32_p32, gint8_p8, gint16_p16, Res.ok_bind, hs,
    Nat.add_sub_cancel_left, need_append _ _ _ rfl]
  rw [if_neg (by simp only [List.length_append, p32_length, p8_length, p16_length]; omega)]
  simp only [unpackRest, if_neg (code_range m), hv, Res.ok_bind, if_neg (Nat.not_lt.2 hvle), hb,
    List.length_nil, Nat.lt_irrefl, if_false, Res.pure_eq, List.length_append, p32_length, p8_length, p16_length]
  -- what remains is the count of bytes consumed
  congr 3
  omega

end G9
