/-
  The packers write the protocol's layout: `Go.p*` against `Spec.*`, and the sizes the
  constructors compute beforehand against the lengths of what they write.
-/
import G9Proofs.Lemmas.Wire
namespace G9
open Go

theorem pstr_eq (s : Bytes) : pstr s = Spec.str s := rfl
theorem pqid_eq (q : Qid) : pqid q = Spec.qid q := rfl

theorem pstrs_eq (ns : List Bytes) : pstrs ns = Spec.strs ns := by
  induction ns with
  | nil => rfl
  | cons n ns ih => simp only [pstrs, Spec.strs, pstr_eq, ih]

theorem pqids_eq (qs : List Qid) : pqids qs = Spec.qids qs := by
  induction qs with
  | nil => rfl
  | cons q qs ih => simp only [pqids, Spec.qids, pqid_eq, ih]

theorem qids_length (qs : List Qid) : (Spec.qids qs).length = 13 * qs.length := by
  induction qs with
  | nil => rfl
  | cons q qs ih =>
    simp only [Spec.qids, Spec.qid, List.length_append, List.length_cons, p8_length, p32_length, p64_length, ih]; omega

theorem strs_length (ns : List Bytes) : (Spec.strs ns).length = ns.length * 2 + namesLen ns := by
  induction ns with
  | nil => rfl
  | cons n ns ih =>
    simp only [Spec.strs, namesLen, List.length_append, List.length_cons, str_length, ih]; omega

theorem statBody_length (dotu : Bool) (d : Stat) :
    (Spec.statBody dotu d).length = statsz dotu d - 2 := by
  cases dotu <;>
  simp only [Spec.statBody, statsz, List.length_append, p16_length, p32_length, p64_length, p8_length,
    str_length, Spec.qid, Bool.false_eq_true, ↓reduceIte, List.length_nil] <;> omega

theorem stat_length (dotu : Bool) (d : Stat) : (Spec.stat dotu d).length = statsz dotu d := by
  have h2 : 2 ≤ statsz dotu d := by unfold statsz; omega
  simp only [Spec.stat, List.length_append, p16_length, statBody_length]; omega

theorem pstat_eq (dotu : Bool) (d : Stat) : pstat dotu d = Spec.stat dotu d := by
  simp only [pstat, Spec.stat, statBody_length]
  simp only [Spec.statBody, pstr_eq, pqid_eq, List.append_assoc]

theorem packDir_eq (dotu : Bool) (d : Stat) : packDir dotu d = Spec.stat dotu d := by
  unfold packDir
  rw [pstat_eq, ← stat_length dotu d, List.take_length]

theorem body_length (dotu : Bool) (m : Msg) : (Spec.body dotu m).length = (packParts dotu m).1 := by
  cases m <;>
    simp only [packParts, Spec.body, List.length_append, p8_length, p16_length, p32_length, p64_length,
      str_length, Spec.qid, strs_length, qids_length, stat_length, List.length_nil,
      apply_ite List.length] <;> omega

theorem packParts_eq (dotu : Bool) (m : Msg) :
    packParts dotu m = ((Spec.body dotu m).length, Spec.body dotu m) := by
  refine Prod.ext (body_length dotu m).symm ?_
  cases m <;> simp only [packParts, Spec.body, pstr_eq, pqid_eq, pstrs_eq, pqids_eq, pstat_eq, stat_length]

theorem encode_length (dotu : Bool) (tag : UInt16) (m : Msg) :
    (Spec.encode dotu tag m).length = 7 + (Spec.body dotu m).length := by
  simp [Spec.encode]; omega

end G9
