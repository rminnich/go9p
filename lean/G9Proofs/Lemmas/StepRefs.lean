/-
  One request (`Srv.step`) put together from its parts: the pre-reply part, the post-handler,
  the release of what the request held.
-/
import G9Proofs.Lemmas.Pre
import G9Proofs.Lemmas.PostRefs
namespace G9.Srv

/-- the reply of a step, spelled out -/
def stepRep (cfg : Cfg) (impl : Impl) (c : Conn) (t : Msg) : Reply :=
  match (pre cfg impl c t).pre with
  | .refuse e => .err e
  | .answer _ a => fitReply (pre cfg impl c t).c a

theorem step_reply (cfg : Cfg) (impl : Impl) (c : Conn) (t : Msg) :
    (step cfg impl c t).2.reply = stepRep cfg impl c t := by
  rfl

/-- the table after the post-handler, before the request's own references are released -/
def stepPost (cfg : Cfg) (impl : Impl) (c : Conn) (t : Msg) : Conn × List UInt32 :=
  if (pre cfg impl c t).held.isEmpty then ((pre cfg impl c t).c, [])
  else post (pre cfg impl c t).c t (stepRep cfg impl c t)

theorem step_fids (cfg : Cfg) (impl : Impl) (c : Conn) (t : Msg) :
    (step cfg impl c t).1.fids =
      (decRefs (stepPost cfg impl c t).1.fids (pre cfg impl c t).held).1 := by
  rfl

theorem step_destroyed (cfg : Cfg) (impl : Impl) (c : Conn) (t : Msg) :
    (step cfg impl c t).2.destroyed =
      (stepPost cfg impl c t).2 ++ (decRefs (stepPost cfg impl c t).1.fids (pre cfg impl c t).held).2 := by
  rfl

theorem step_msize (cfg : Cfg) (impl : Impl) (c : Conn) (t : Msg) :
    (step cfg impl c t).1.msize = (stepPost cfg impl c t).1.msize ∧
    (step cfg impl c t).1.dotu = (stepPost cfg impl c t).1.dotu := by
  exact ⟨rfl, rfl⟩

theorem step_calls (cfg : Cfg) (impl : Impl) (c : Conn) (t : Msg) :
    (step cfg impl c t).2.calls =
      match (pre cfg impl c t).pre with
      | .refuse _ => []
      | .answer calls _ => calls := by
  rfl

theorem step_of_refuse {cfg : Cfg} {impl : Impl} {c : Conn} {t : Msg} {e : FErr}
    (h : (pre cfg impl c t).pre = .refuse e) :
    (step cfg impl c t).2.reply = .err e ∧ (step cfg impl c t).2.calls = [] := by
  rw [step_reply, step_calls]; unfold stepRep; rw [h]; exact ⟨rfl, rfl⟩

theorem step_of_answer {cfg : Cfg} {impl : Impl} {c : Conn} {t : Msg} {calls : List Call} {a : Ans}
    (h : (pre cfg impl c t).pre = .answer calls a) : (step cfg impl c t).2.calls = calls := by
  rw [step_calls, h]

theorem stepRep_r {cfg : Cfg} {impl : Impl} {c : Conn} {t : Msg} {m : Msg}
    (h : stepRep cfg impl c t = .r m) : ∃ calls a, (pre cfg impl c t).pre = .answer calls a := by
  unfold stepRep at h
  cases hp : (pre cfg impl c t).pre with
  | refuse e => rw [hp] at h; cases h
  | answer calls a => exact ⟨calls, a, rfl⟩

/-- the post-handler runs only if the request holds a fid -/
theorem stepPost_cases (cfg : Cfg) (impl : Impl) (c : Conn) (t : Msg) :
    PostCase (pre cfg impl c t).c
      (fun k => if (pre cfg impl c t).held.isEmpty then 0
        else postRet (pre cfg impl c t).c.fids t (stepRep cfg impl c t) k)
      (fun k => if (pre cfg impl c t).held.isEmpty then 0 else postRel t (stepRep cfg impl c t) k)
      (stepPost cfg impl c t) := by
  unfold stepPost
  split
  · exact .idle (fun _ => rfl) (fun _ => rfl)
  · exact post_cases _ _ _

theorem step_msize_pre (cfg : Cfg) (impl : Impl) (c : Conn) (t : Msg) :
    (step cfg impl c t).1.msize = (pre cfg impl c t).c.msize ∧
    (step cfg impl c t).1.dotu = (pre cfg impl c t).c.dotu :=
  (stepPost_cases cfg impl c t).msize

/-- net effect of one request on the reference count of every fid number -/
theorem step_refOf (cfg : Cfg) (impl : Impl) (c : Conn) (t : Msg) (h : RefsPos c.fids) (k : UInt32) :
    RefsPos (step cfg impl c t).1.fids ∧
    refOf (step cfg impl c t).1.fids k =
      if (pre cfg impl c t).held.isEmpty then refOf c.fids k
      else (refOf c.fids k + postRet (pre cfg impl c t).c.fids t (stepRep cfg impl c t) k)
            - postRel t (stepRep cfg impl c t) k := by
  obtain ⟨hp, hr⟩ := (pre_cases cfg impl c t).refs h
  obtain ⟨hp2, hr2⟩ := (stepPost_cases cfg impl c t).refs hp
  rw [step_fids]
  refine ⟨RefsPos_decRefs _ _ hp2, ?_⟩
  -- `pre` adds `held.count k` to the count and the release of what the request held takes it back
  rw [refOf_decRefs, hr2, hr]
  split <;> omega

/-- Every count rises to some `m` while the request runs and then `r` references are released; `FidDestroy` is
    called for a fid iff they take its count from `m` to 0. -/
theorem step_release (cfg : Cfg) (impl : Impl) (c : Conn) (t : Msg) (h : RefsPos c.fids) (k : UInt32) :
    ∃ m r, refOf c.fids k ≤ m ∧ refOf (step cfg impl c t).1.fids k = m - r ∧
      (step cfg impl c t).2.destroyed.count k = if 1 ≤ m ∧ m ≤ r then 1 else 0 := by
  obtain ⟨hp, hr⟩ := (pre_cases cfg impl c t).refs h
  obtain ⟨m, r, hm, h1, h2⟩ := (stepPost_cases cfg impl c t).then_release hp (pre cfg impl c t).held k
  rw [step_fids, step_destroyed]
  exact ⟨m, r, Nat.le_trans (hr k ▸ Nat.le_add_right _ _) hm, h1, h2⟩

/-- a request refused before it holds any fid changes nothing -/
theorem step_of_refused_early {cfg : Cfg} {impl : Impl} {c : Conn} {t : Msg} {e : FErr}
    (h : pre cfg impl c t = ⟨c, [], .refuse e⟩) :
    step cfg impl c t = (c, { calls := [], reply := .err e, destroyed := [] }) := by
  unfold step; rw [h]; rfl

theorem step_shrinks (cfg : Cfg) (impl : Impl) (c : Conn) (t : Msg) :
    Shrinks (pre cfg impl c t).c.fids (step cfg impl c t).1.fids := by
  rw [step_fids]
  exact Shrinks.trans (stepPost_cases cfg impl c t).shrinks (shrinks_decRefs _ _)

theorem step_user (cfg : Cfg) (impl : Impl) (c : Conn) (t : Msg) (k : UInt32) (u : Nat)
    (h : userAt c.fids k = some u) :
    userAt (step cfg impl c t).1.fids k = none ∨ userAt (step cfg impl c t).1.fids k = some u := by
  have h1 : userAt (pre cfg impl c t).c.fids k = userAt c.fids k := by
    rcases (pre_cases cfg impl c t).users with h1 | ⟨k0, u', ⟨h0, h1⟩, _⟩
    · exact h1 k
    · rw [h1, if_neg (fun e => by rw [e, h0] at h; cases h)]
  rw [← h, ← h1]
  exact step_shrinks cfg impl c t k

end G9.Srv
