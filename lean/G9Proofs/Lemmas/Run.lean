/-
  Runs of a transition system: `Run.Of step run` says that a model's `run` is its `step : σ → ε → Option σ`
  (`none`: the event is not enabled) iterated; what holds of every such pair is proved here once.  A run that
  also asks for a side condition (`if s.tame e then … else none`) is the run of the step with that condition.
-/
namespace G9.Run
variable {σ ε : Type} {step : σ → ε → Option σ} {run : σ → List ε → Option σ}

structure Of (step : σ → ε → Option σ) (run : σ → List ε → Option σ) : Prop where
  nil : ∀ s, run s [] = some s
  cons : ∀ s e es, run s (e :: es) = (step s e).bind (run · es)

namespace Of
variable (h : Of step run)
include h

theorem nil_some {s s' : σ} : run s [] = some s' ↔ s = s' := by
  rw [h.nil, Option.some.injEq]

theorem cons_some {s s' : σ} {e : ε} {es : List ε} :
    run s (e :: es) = some s' ↔ ∃ s₁, step s e = some s₁ ∧ run s₁ es = some s' := by
  rw [h.cons, Option.bind_eq_some_iff]

theorem append (s : σ) (a b : List ε) : run s (a ++ b) = (run s a).bind (run · b) := by
  induction a generalizing s with
  | nil => rw [h.nil]; rfl
  | cons e a ih => simp only [List.cons_append, h.cons, Option.bind_assoc, ih]

theorem append_cons_some {s s' : σ} {a b : List ε} {e : ε} :
    run s (a ++ e :: b) = some s' ↔
      ∃ s₁, run s a = some s₁ ∧ ∃ s₂, step s₁ e = some s₂ ∧ run s₂ b = some s' := by
  simp only [h.append, Option.bind_eq_some_iff, h.cons_some]

theorem inv {P : σ → Prop} (hP : ∀ s s' e, P s → step s e = some s' → P s') :
    ∀ (es : List ε) (s s' : σ), P s → run s es = some s' → P s'
  | [], _, _, hs, hr => h.nil_some.1 hr ▸ hs
  | e :: es, s, s', hs, hr =>
    let ⟨s₁, h₁, hr⟩ := h.cons_some.1 hr
    inv hP es s₁ s' (hP s s₁ e hs h₁) hr

theorem mono {step' : σ → ε → Option σ} {run' : σ → List ε → Option σ} (h' : Of step' run')
    (hle : ∀ s s' e, step' s e = some s' → step s e = some s') :
    ∀ (es : List ε) (s s' : σ), run' s es = some s' → run s es = some s'
  | [], _, _, hr => h.nil_some.2 (h'.nil_some.1 hr)
  | _ :: es, _, s', hr =>
    let ⟨s₁, h₁, hr⟩ := h'.cons_some.1 hr
    h.cons_some.2 ⟨s₁, hle _ _ _ h₁, mono h' hle es s₁ s' hr⟩

theorem lost {Q : σ → Prop} : ∀ (es : List ε) (s s' : σ), run s es = some s' → Q s → ¬ Q s' →
    ∃ a e b s₁ s₂, es = a ++ e :: b ∧ run s a = some s₁ ∧ Q s₁ ∧ step s₁ e = some s₂ ∧ ¬ Q s₂ ∧
      run s₂ b = some s'
  | [], _, _, hr, hs, hn => absurd (h.nil_some.1 hr ▸ hs) hn
  | e :: es, s, s', hr, hs, hn => by
    obtain ⟨s₁, h₁, hr⟩ := h.cons_some.1 hr
    by_cases hq : Q s₁
    · obtain ⟨a, e', b, t₁, t₂, rfl, ha, r⟩ := lost es s₁ s' hr hq hn
      exact ⟨e :: a, e', b, t₁, t₂, rfl, h.cons_some.2 ⟨s₁, h₁, ha⟩, r⟩
    · exact ⟨[], e, es, s, s₁, rfl, h.nil s, hs, h₁, hq, hr⟩

end Of
end G9.Run
