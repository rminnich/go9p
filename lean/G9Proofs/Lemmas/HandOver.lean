/-
  The one argument behind both halves of C19's "conflicting accesses are ordered": an object that
  one agent at a time may touch (`owner`), that leaves its owner only by an event of the owner's
  (`give`: an unlock, a send) and gets a new one only by an event of the new owner's (`take`: a lock,
  a receive).
-/
import G9.LockSet
import G9.OwnSet
import G9Proofs.Lemmas.Run

namespace G9.Run
variable {σ ε τ : Type} {step : σ → ε → Option σ} {run : σ → List ε → Option σ}

/-- `I` is whatever invariant of the model `hstep` needs (`OwnSet.WF`; G9.LockSet needs none). -/
theorem Of.handed_over (h : Of step run) (owner : σ → Option τ) (touch give take : τ → ε → Prop)
    (I : σ → Prop)
    (htouch : ∀ s s' e t, step s e = some s' → touch t e → owner s = some t ∧ owner s' = some t)
    (hstep : ∀ s s' e, I s → step s e = some s' → I s' ∧ (owner s' = owner s ∨
      (∃ t, give t e ∧ owner s = some t ∧ owner s' = none) ∨
      (∃ u, take u e ∧ owner s = none ∧ owner s' = some u)))
    {s₀ s' : σ} {pre mid post : List ε} {e₁ e₂ : ε} {t u : τ} (h₀ : I s₀)
    (hr : run s₀ (pre ++ e₁ :: (mid ++ e₂ :: post)) = some s') (h₁ : touch t e₁) (h₂ : touch u e₂)
    (htu : t ≠ u) : ∃ a g b k c, mid = a ++ g :: (b ++ k :: c) ∧ give t g ∧ take u k := by
  have hI := fun s s' e i hs => (hstep s s' e i hs).1
  obtain ⟨s₁, hpre, s₁', hs₁, hr⟩ := h.append_cons_some.1 hr
  obtain ⟨s₂, hmid, _, hs₂, _⟩ := h.append_cons_some.1 hr
  have i₁ := hI _ _ _ (h.inv hI pre _ _ h₀ hpre) hs₁
  have o₂ := (htouch _ _ _ _ hs₂ h₂).1
  -- `t` owns the object after `e₁`, no longer at `e₂`: it is lost at a step `g` of `mid`, from `sa` to `sb`
  obtain ⟨a, g, b', sa, sb, rfl, ha, oa, hg, ob, hb'⟩ := h.lost (Q := (owner · = some t)) mid _ _ hmid
    (htouch _ _ _ _ hs₁ h₁).2 (by rw [o₂]; exact fun e => htu (Option.some.inj e).symm)
  have ia := h.inv hI a _ _ i₁ ha
  obtain e | ⟨t', hgive, e, nb⟩ | ⟨_, _, e, _⟩ := (hstep _ _ _ ia hg).2
  · exact absurd (e ▸ oa) ob
  · cases oa.symm.trans e
    -- nobody owns it after `g`, `u` does at `e₂`: it is gained at a step `k` in between, from `sc` to `sd`
    obtain ⟨b, k, c, sc, sd, rfl, hb, oc, hk, od, _⟩ := h.lost (Q := (owner · ≠ some u)) b' _ _ hb'
      (by rw [nb]; exact nofun) (fun n => n o₂)
    obtain e | ⟨_, _, _, e⟩ | ⟨u', htake, _, e⟩ := (hstep _ _ _ (h.inv hI b _ _ (hI _ _ _ ia hg) hb) hk).2
    · exact absurd (e ▸ oc) od
    · exact absurd (by rw [e]; exact nofun) od
    · cases Option.some.inj (e.symm.trans (Classical.not_not.1 od))
      exact ⟨a, g, b, k, c, rfl, hgive, htake⟩
  · cases oa.symm.trans e

end G9.Run

namespace G9.LockSet

theorem isRun (guard : Nat → Nat) : Run.Of (step guard) (run guard) := ⟨fun _ => rfl, fun _ _ _ => rfl⟩

theorem step_holder {guard : Nat → Nat} {h h' : Holders} {e : Ev} (hs : step guard h e = some h') (g : Nat) :
    h' g = h g ∨ (∃ t, e = ⟨t, .rel g⟩ ∧ h g = some t ∧ h' g = none) ∨
      (∃ u, e = ⟨u, .acq g⟩ ∧ h g = none ∧ h' g = some u) := by
  obtain ⟨t, op⟩ := e
  cases op <;> simp only [step] at hs <;> split at hs <;> cases hs
  case acq l hl =>
    by_cases hg : g = l
    · subst hg; exact .inr (.inr ⟨t, rfl, hl, by simp [setH]⟩)
    · exact .inl (by simp [setH, hg])
  case rel l hl =>
    by_cases hg : g = l
    · subst hg; exact .inr (.inl ⟨t, rfl, hl, by simp [setH]⟩)
    · exact .inl (by simp [setH, hg])
  case acc => exact .inl rfl

theorem step_acc {guard : Nat → Nat} {h h' : Holders} {e : Ev} {t x : Nat} (hs : step guard h e = some h')
    (he : ∃ w, e = ⟨t, .acc x w⟩) : h (guard x) = some t ∧ h' (guard x) = some t := by
  obtain ⟨w, rfl⟩ := he
  simp only [step] at hs
  split at hs <;> cases hs
  exact ⟨‹_›, ‹_›⟩

end G9.LockSet

namespace G9.OwnSet

theorem isRun : Run.Of step run := ⟨fun _ => rfl, fun _ _ _ => rfl⟩

theorem step_owner {s s' : St} {e : Ev} (hwf : WF s) (hs : step s e = some s') (x : Nat) :
    WF s' ∧ (s'.owner x = s.owner x ∨
      (∃ t, (∃ c, e = ⟨t, .send c x⟩) ∧ s.owner x = some t ∧ s'.owner x = none) ∨
      (∃ u, (∃ c, e = ⟨u, .recv c x⟩) ∧ s.owner x = none ∧ s'.owner x = some u)) := by
  obtain ⟨t, op⟩ := e
  cases op <;> simp only [step] at hs <;> split at hs <;> cases hs
  case send c y hy =>
    refine ⟨fun z d hv => ?_, ?_⟩
    · by_cases hz : z = y
      · simp [set, hz]
      · simp only [set, hz, if_false] at hv ⊢; exact hwf z d hv
    · by_cases hx : x = y
      · subst hx; exact .inr (.inl ⟨t, ⟨c, rfl⟩, hy, by simp [set]⟩)
      · exact .inl (by simp [set, hx])
  case recv c y hy =>
    refine ⟨fun z d hv => ?_, ?_⟩
    · by_cases hz : z = y
      · simp [set, hz] at hv
      · simp only [set, hz, if_false] at hv ⊢; exact hwf z d hv
    · by_cases hx : x = y
      · subst hx; exact .inr (.inr ⟨t, ⟨c, rfl⟩, hwf x c hy, by simp [set]⟩)
      · exact .inl (by simp [set, hx])
  case acc => exact ⟨hwf, .inl rfl⟩

theorem step_acc {s s' : St} {e : Ev} {t x : Nat} (hs : step s e = some s') (he : ∃ w, e = ⟨t, .acc x w⟩) :
    s.owner x = some t ∧ s'.owner x = some t := by
  obtain ⟨w, rfl⟩ := he
  simp only [step] at hs
  split at hs <;> cases hs
  exact ⟨‹_›, ‹_›⟩

end G9.OwnSet
