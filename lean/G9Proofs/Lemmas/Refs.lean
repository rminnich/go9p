/-
  What is read off the fid table under a number — its reference count and whether it is there —
  and what each table operation does to the two.
-/
import G9Proofs.Lemmas.Fids
namespace G9.Srv

/-- reference count of a fid number, 0 when it is not in the table -/
def refOf (fs : Fids) (k : UInt32) : Nat :=
  match lookup fs k with
  | some r => r.ref
  | none => 0

/-- every fid in the table is referenced -/
def RefsPos (fs : Fids) : Prop := ∀ k r, lookup fs k = some r → 1 ≤ r.ref

def present (fs : Fids) (k : UInt32) : Prop := (lookup fs k).isSome = true

instance (fs : Fids) (k : UInt32) : Decidable (present fs k) := by unfold present; infer_instance

theorem refOf_of_none {fs : Fids} {k : UInt32} (h : lookup fs k = none) : refOf fs k = 0 := by
  unfold refOf; rw [h]

theorem present_of_lookup {fs : Fids} {k : UInt32} {r : FidRec} (h : lookup fs k = some r) : present fs k := by
  unfold present; rw [h]; rfl

theorem not_present_of_none {fs : Fids} {k : UInt32} (h : lookup fs k = none) : ¬ present fs k := by
  unfold present; rw [h]; exact Bool.false_ne_true

theorem refOf_pos_iff {fs : Fids} (h : RefsPos fs) (k : UInt32) :
    1 ≤ refOf fs k ↔ (lookup fs k).isSome = true := by
  unfold refOf
  cases hl : lookup fs k with
  | none => simp
  | some r => exact ⟨fun _ => rfl, fun _ => h k r hl⟩

theorem count_cons' (k' k : UInt32) (ks : List UInt32) :
    (k :: ks).count k' = ks.count k' + if k' = k then 1 else 0 := by
  simp only [List.count_cons, beq_iff_eq, eq_comm (a := k)]

theorem refOf_modFid (fs : Fids) (k k' : UInt32) (g : FidRec → FidRec) (n : Nat)
    (hg : ∀ r, (g r).ref = r.ref + n) :
    refOf (modFid fs k g) k' = refOf fs k' + if k' = k ∧ present fs k then n else 0 := by
  unfold refOf; rw [lookup_modFid]
  by_cases h : k' = k
  · subst h
    rw [if_pos rfl]
    cases hl : lookup fs k' with
    | none => rw [if_neg (fun h => not_present_of_none hl h.2)]; rfl
    | some r => rw [if_pos ⟨rfl, present_of_lookup hl⟩]; exact hg r
  · rw [if_neg h, if_neg (fun h' => h h'.1)]; rfl

theorem RefsPos_modFid (fs : Fids) (k : UInt32) (g : FidRec → FidRec) (n : Nat)
    (hg : ∀ r, (g r).ref = r.ref + n) (h : RefsPos fs) : RefsPos (modFid fs k g) := by
  intro k' r hr
  rw [lookup_modFid] at hr
  split at hr
  · obtain ⟨r0, hl, rfl⟩ := Option.map_eq_some_iff.1 hr
    rw [hg]; exact Nat.le_add_right_of_le (h k' r0 hl)
  · exact h k' r hr

/-- `FidGet` and `FidNew` add the fid they return, writes to other fields add nothing; the pre-reply
    part of a request chains them. -/
def Adds (fs : Fids) (ks : List UInt32) (fs' : Fids) : Prop :=
  RefsPos fs → RefsPos fs' ∧ ∀ k, refOf fs' k = refOf fs k + ks.count k

theorem Adds.refl (fs : Fids) : Adds fs [] fs := fun hp => ⟨hp, fun _ => rfl⟩

theorem Adds.trans {a b c : Fids} {ks ks' : List UInt32} (h1 : Adds a ks b) (h2 : Adds b ks' c) :
    Adds a (ks ++ ks') c := fun hp =>
  let ⟨p1, r1⟩ := h1 hp
  let ⟨p2, r2⟩ := h2 p1
  ⟨p2, fun k => by rw [r2, r1, List.count_append, Nat.add_assoc]⟩

theorem Adds.present {fs fs' : Fids} {ks : List UInt32} (h : Adds fs ks fs') (hp : RefsPos fs) {k : UInt32}
    (hk : k ∈ ks) : present fs' k :=
  (refOf_pos_iff (h hp).1 k).1 (by rw [(h hp).2]; exact Nat.le_add_left_of_le (List.count_pos_iff.2 hk))

theorem adds_modFid {fs : Fids} {k : UInt32} {g : FidRec → FidRec} (hg : ∀ r, (g r).ref = r.ref) :
    Adds fs [] (modFid fs k g) := fun hp =>
  ⟨RefsPos_modFid fs k g 0 hg hp, fun k' => by rw [refOf_modFid fs k k' g 0 hg, ite_self]; rfl⟩

theorem adds_incRef {fs : Fids} {k : UInt32} {r : FidRec} (hl : lookup fs k = some r) :
    Adds fs [k] (incRef fs k) := fun hp =>
  ⟨RefsPos_modFid fs k _ 1 (fun _ => rfl) hp, fun k' => by
    rw [incRef, refOf_modFid fs k k' _ 1 (fun _ => rfl), count_cons']
    by_cases hk : k' = k <;> simp [hk, present_of_lookup hl]⟩

theorem adds_fidNew {fs fs' : Fids} {k : UInt32} {u : Nat} (h : fidNew fs k u = some fs') :
    Adds fs [k] fs' := fun hp => by
  obtain ⟨h1, h2⟩ := fidNew_some h
  refine ⟨fun k' r hr => ?_, fun k' => ?_⟩
  · rw [h2] at hr
    split at hr
    · cases hr; exact Nat.le_refl 1
    · exact hp k' r hr
  · unfold refOf
    rw [h2, count_cons']
    by_cases hk : k' = k <;> simp [hk, h1]

theorem refOf_decRef (fs : Fids) (k k' : UInt32) :
    refOf (decRef fs k).1 k' = if k' = k then refOf fs k' - 1 else refOf fs k' := by
  unfold refOf
  rw [lookup_decRef]
  by_cases h : k' = k
  · rw [if_pos h, if_pos h]
    cases lookup fs k' with
    | none => rfl
    | some r =>
      unfold FidRec.dec; dsimp only [Option.bind]
      by_cases h1 : r.ref ≤ 1
      · rw [if_pos h1]; show 0 = r.ref - 1; omega
      · rw [if_neg h1]
  · rw [if_neg h, if_neg h]

theorem RefsPos_decRef (fs : Fids) (k : UInt32) (h : RefsPos fs) : RefsPos (decRef fs k).1 := by
  intro k' r hr
  rw [lookup_decRef] at hr
  split at hr
  · obtain ⟨r0, _, hd⟩ := Option.bind_eq_some_iff.1 hr
    unfold FidRec.dec at hd
    split at hd <;> cases hd
    show 1 ≤ r0.ref - 1; omega
  · exact h k' r hr

/-- truncated subtraction: at zero the fid has left the table -/
theorem refOf_decRefs (fs : Fids) (ks : List UInt32) (k' : UInt32) :
    refOf (decRefs fs ks).1 k' = refOf fs k' - ks.count k' := by
  induction ks generalizing fs with
  | nil => rfl
  | cons k ks ih =>
    simp only [decRefs]
    rw [ih, refOf_decRef, count_cons']
    split <;> omega

theorem RefsPos_decRefs (fs : Fids) (ks : List UInt32) (h : RefsPos fs) : RefsPos (decRefs fs ks).1 := by
  induction ks generalizing fs with
  | nil => exact h
  | cons k ks ih => simp only [decRefs]; exact ih _ (RefsPos_decRef fs k h)

/-- `FidDestroy` is called for a fid exactly when this release takes its last reference -/
theorem count_destroyed_decRef (fs : Fids) (k k' : UInt32) (h : RefsPos fs) :
    (decRef fs k).2.count k' = if k' = k ∧ refOf fs k = 1 then 1 else 0 := by
  rw [decRef_destroyed]
  unfold refOf
  cases hl : lookup fs k with
  | none => simp
  | some r =>
    have := h k r hl
    dsimp only
    by_cases h1 : r.ref ≤ 1
    · rw [if_pos h1, count_cons', List.count_nil, Nat.zero_add]
      have : r.ref = 1 := by omega
      simp only [this, and_true]
    · rw [if_neg h1, if_neg (by omega), List.count_nil]

theorem count_destroyed_decRefs (fs : Fids) (ks : List UInt32) (k' : UInt32) (h : RefsPos fs) :
    (decRefs fs ks).2.count k' =
      if 1 ≤ refOf fs k' ∧ refOf fs k' ≤ ks.count k' then 1 else 0 := by
  induction ks generalizing fs with
  | nil => rw [if_neg (by rw [List.count_nil]; omega)]; rfl
  | cons k ks ih =>
    simp only [decRefs, List.count_append]
    rw [ih _ (RefsPos_decRef fs k h), count_destroyed_decRef fs k k' h, refOf_decRef, count_cons']
    by_cases hk : k' = k
    · subst hk
      simp only [true_and, if_true]
      -- the first release destroys a fid that has one reference; one that has more is left to the others
      by_cases h1 : refOf fs k' = 1
      · rw [if_pos h1, if_neg (by omega), if_pos (by omega)]
      · rw [if_neg h1, Nat.zero_add]
        exact ite_congr (propext (by omega)) (fun _ => rfl) (fun _ => rfl)
    · simp only [hk, false_and, if_false, Nat.zero_add, Nat.add_zero]

end G9.Srv
