/-
  `LS.step` as a relation: one constructor per branch of the function, with the tests that lead to it and the
  state it returns; every preservation proof about M4 is a case analysis of `Step`.  A test has the same name
  in every constructor that makes it (`hr`/`hf`, `hw`, `hit hpc`, `hc`, …), since the proofs by cases bind
  hypotheses by position.
  `dsimp only` in those proofs reduces the projections of a new state `{ s with … }`.
-/
import G9.SrvLife
import G9Proofs.Lemmas.Run
namespace G9.Life

inductive Step (s : LS) : Ev → LS → Prop
  | recv (tag : Nat) (oldtag : Option Nat) (hc : ¬ s.closed = true) :
    Step s (.recv tag oldtag)
      { s with n := s.n + 1,
               req := upd (linkPrev s.req (s.chain tag).head? s.n) s.n
                 { tag := tag, oldtag := oldtag, wpc := if (s.chain tag).isEmpty then .start else .queued },
               chain := updL s.chain tag (s.n :: s.chain tag) }
  | check (r : Nat) (hr : r < s.n) (hw : (s.req r).wpc = .start) :
    Step s (.check r)
      { s with req := upd s.req r { s.req r with wk := if (s.req r).fl then (s.req r).wk else true,
                                                 wpc := .checked (s.req r).fl } }
  | dispatchOp (r : Nat) (hr : r < s.n) (hw : (s.req r).wpc = .checked false) (ho : (s.req r).oldtag = none) :
    Step s (.dispatch r) { s with req := upd s.req r { s.req r with wpc := .inImpl }, implLog := s.implLog ++ [r] }
  | dispatchFl (r : Nat) (hr : r < s.n) (hw : (s.req r).wpc = .checked false) (ot : Nat)
      (ho : (s.req r).oldtag = some ot) :
    Step s (.dispatch r) { s with req := upd s.req r { s.req r with wpc := .fl0 } }
  | selfRespond (r : Nat) (hr : r < s.n) (hw : (s.req r).wpc = .checked true) :
    Step s (.selfRespond r)
      { s with req := upd s.req r { s.req r with wpc := .ended }, insts := s.insts ++ [{ rid := r }] }
  | answer (r : Nat) (hr : r < s.n) (hm : r ∈ s.implLog) :
    Step s (.answer r) { s with insts := s.insts ++ [{ rid := r }] }
  | implFlush (r : Nat) (hr : r < s.n) (hm : r ∈ s.implLog) :
    Step s (.implFlush r)
      { s with req := upd s.req r { s.req r with fl := true }, insts := s.insts ++ [{ rid := r }] }
  | implReturn (r : Nat) (hr : r < s.n) (hw : (s.req r).wpc = .inImpl) :
    Step s (.implReturn r) { s with req := upd s.req r { s.req r with wpc := .tail } }
  | procEnd (r : Nat) (hr : r < s.n) (hw : (s.req r).wpc = .tail) :
    Step s (.procEnd r)
      { s with req := upd s.req r { s.req r with wk := false, sv := if (s.req r).rs then (s.req r).sv else true,
                                                 wpc := .ended } }
  | lookupNone (f : Nat) (hf : f < s.n) (hw : (s.req f).wpc = .fl0) (ot : Nat) (ho : (s.req f).oldtag = some ot)
      (hl : lookupTarget s.chain f ot = none) :
    Step s (.flushLookup f) { s with req := upd s.req f { s.req f with wpc := .fl1 none } }
  | lookupSome (f : Nat) (hf : f < s.n) (hw : (s.req f).wpc = .fl0) (ot : Nat) (ho : (s.req f).oldtag = some ot)
      (t : Nat) (hl : lookupTarget s.chain f ot = some t) :
    Step s (.flushLookup f)
      (let req1 := upd s.req f { s.req f with flushreq := (s.req t).flushreq }
       let req2 := upd req1 t { req1 t with flushreq := some f }
       { s with req := upd req2 f { req2 f with wpc := .fl1 (some t), looked := some t } })
  | flushMark (f : Nat) (hf : f < s.n) (t : Nat) (hw : (s.req f).wpc = .fl1 (some t)) :
    Step s (.flushMark f)
      (let qt := s.req t
       let cancel := !(qt.wk || qt.sv)
       let early := cancel && (qt.wpc = .queued || qt.wpc = .start)
       let req1 := upd s.req t { qt with fl := if cancel then true else qt.fl, noRun := qt.noRun || early }
       { s with req := upd req1 f { req1 f with wpc := .fl2 t cancel } })
  | actNone (f : Nat) (hf : f < s.n) (hw : (s.req f).wpc = .fl1 none) :
    Step s (.flushAct f)
      { s with req := upd s.req f { s.req f with wpc := .tail }, insts := s.insts ++ [{ rid := f }] }
  | actCancel (f : Nat) (hf : f < s.n) (t : Nat) (hw : (s.req f).wpc = .fl2 t true) :
    Step s (.flushAct f)
      { s with req := upd s.req f { s.req f with wpc := .tail }, insts := s.insts ++ [{ rid := t }] }
  | actOp (f : Nat) (hf : f < s.n) (t : Nat) (hw : (s.req f).wpc = .fl2 t false) :
    Step s (.flushAct f) { s with req := upd s.req f { s.req f with wpc := .tail } }
  | markLost (i : Nat) (it : Inst) (hit : s.insts[i]? = some it) (hpc : it.pc = .mark)
      (hrs : (s.req it.rid).rs = true) :
    Step s (.mark i)
      { s with req := upd s.req it.rid { s.req it.rid with rs := true, wk := false },
               insts := setInst s.insts i { it with pc := .done } }
  | markWon (i : Nat) (it : Inst) (hit : s.insts[i]? = some it) (hpc : it.pc = .mark)
      (hrs : ¬ (s.req it.rid).rs = true) :
    Step s (.mark i)
      { s with req := upd s.req it.rid { s.req it.rid with rs := true, wk := false },
               insts := setInst s.insts i { it with pc := .post, oldFl := (s.req it.rid).fl } }
  | post (i : Nat) (it : Inst) (hit : s.insts[i]? = some it) (hpc : it.pc = .post) :
    Step s (.post i) { s with insts := setInst s.insts i { it with pc := .queue } }
  | queueDrop (i : Nat) (it : Inst) (hit : s.insts[i]? = some it) (hpc : it.pc = .queue)
      (hd : (it.oldFl || s.closed) = true) :
    Step s (.queue i) { s with insts := setInst s.insts i { it with pc := .unlink } }
  | queuePush (i : Nat) (it : Inst) (hit : s.insts[i]? = some it) (hpc : it.pc = .queue)
      (hd : ¬ (it.oldFl || s.closed) = true) (hcap : s.reqout.length ≤ s.cap) :
    Step s (.queue i)
      { s with reqout := s.reqout ++ [it.rid], insts := setInst s.insts i { it with pc := .unlink } }
  | unlinkMid (i : Nat) (it : Inst) (hit : s.insts[i]? = some it) (hpc : it.pc = .unlink) (od : Nat)
      (hod : olderOf (s.chain (s.req it.rid).tag) it.rid = some od) :
    Step s (.unlink i)
      { s with chain := updL s.chain (s.req it.rid).tag ((s.chain (s.req it.rid).tag).erase it.rid),
               unl := it.rid :: s.unl,
               req := upd s.req od { s.req od with prev := (s.req it.rid).prev },
               insts := setInst s.insts i { it with pc := .next, nxt := none, cur := (s.req it.rid).flushreq } }
  | unlinkLast (i : Nat) (it : Inst) (hit : s.insts[i]? = some it) (hpc : it.pc = .unlink)
      (hod : olderOf (s.chain (s.req it.rid).tag) it.rid = none) (hp : (s.req it.rid).prev = none) :
    Step s (.unlink i)
      { s with chain := updL s.chain (s.req it.rid).tag [], unl := it.rid :: s.unl,
               insts := setInst s.insts i { it with pc := .next, nxt := none, cur := (s.req it.rid).flushreq } }
  | unlinkNext (i : Nat) (it : Inst) (hit : s.insts[i]? = some it) (hpc : it.pc = .unlink)
      (hod : olderOf (s.chain (s.req it.rid).tag) it.rid = none) (m : Nat) (hp : (s.req it.rid).prev = some m)
      (hfr : (s.req it.rid).flushreq = none) :
    Step s (.unlink i)
      { s with chain := updL s.chain (s.req it.rid).tag (cutAfter m (s.chain (s.req it.rid).tag)),
               unl := it.rid :: s.unl,
               insts := setInst s.insts i { it with pc := .next, nxt := some m, cur := none } }
  | unlinkMove (i : Nat) (it : Inst) (hit : s.insts[i]? = some it) (hpc : it.pc = .unlink)
      (hod : olderOf (s.chain (s.req it.rid).tag) it.rid = none) (m : Nat) (hp : (s.req it.rid).prev = some m)
      (fr : Nat) (hfr : (s.req it.rid).flushreq = some fr) (hmfr : (s.req m).flushreq = none) :
    Step s (.unlink i)
      { s with chain := updL s.chain (s.req it.rid).tag (cutAfter m (s.chain (s.req it.rid).tag)),
               unl := it.rid :: s.unl, req := upd s.req m { s.req m with flushreq := some fr },
               insts := setInst s.insts i { it with pc := .next, nxt := some m, cur := none } }
  | unlinkRestart (i : Nat) (it : Inst) (hit : s.insts[i]? = some it) (hpc : it.pc = .unlink)
      (hod : olderOf (s.chain (s.req it.rid).tag) it.rid = none) (m : Nat) (hp : (s.req it.rid).prev = some m)
      (fr : Nat) (hfr : (s.req it.rid).flushreq = some fr) (hmfr : ¬ (s.req m).flushreq = none) :
    Step s (.unlink i)
      { s with chain := updL s.chain (s.req it.rid).tag (cutAfter m (s.chain (s.req it.rid).tag)),
               unl := it.rid :: s.unl,
               insts := setInst s.insts i { it with pc := .next, nxt := some fr, cur := none } }
  | nextNone (i : Nat) (it : Inst) (hit : s.insts[i]? = some it) (hpc : it.pc = .next) (hn : it.nxt = none) :
    Step s (.next i) { s with insts := setInst s.insts i { it with pc := .flushes } }
  | nextStart (i : Nat) (it : Inst) (hit : s.insts[i]? = some it) (hpc : it.pc = .next) (m : Nat)
      (hn : it.nxt = some m) :
    Step s (.next i)
      { s with req := upd s.req m { s.req m with wpc := .start },
               insts := setInst s.insts i { it with pc := .flushes } }
  | flushesEnd (i : Nat) (it : Inst) (hit : s.insts[i]? = some it) (hpc : it.pc = .flushes) (hcur : it.cur = none) :
    Step s (.flushes i) { s with insts := setInst s.insts i { it with pc := .done } }
  | flushesAdv (i : Nat) (it : Inst) (hit : s.insts[i]? = some it) (hpc : it.pc = .flushes) (f : Nat)
      (hcur : it.cur = some f) (hsp : it.sp = true) :
    Step s (.flushes i) { s with insts := setInst s.insts i { it with cur := (s.req f).flushreq, sp := false } }
  | flushesCall (i : Nat) (it : Inst) (hit : s.insts[i]? = some it) (hpc : it.pc = .flushes) (f : Nat)
      (hcur : it.cur = some f) (hsp : ¬ it.sp = true) :
    Step s (.flushes i) { s with insts := setInst (s.insts ++ [{ rid := f }]) i { it with sp := true } }
  | send (r : Nat) (rest : List Nat) (hro : s.reqout = r :: rest) (hc : ¬ s.closed = true) :
    Step s .send { s with reqout := rest, wire := s.wire ++ [r] }
  | close (hc : ¬ s.closed = true) : Step s .close { s with closed := true }

theorem Step.of_step {s s' : LS} {e : Ev} (hs : s.step e = some s') : Step s e s' := by
  cases e <;> simp only [LS.step] at hs
  case recv tag ot => split at hs <;> cases hs; exact .recv tag ot ‹_›
  case send =>
    split at hs
    · cases hs
    · split at hs <;> cases hs; exact .send _ _ ‹_› ‹_›
  case close => split at hs <;> cases hs; exact .close ‹_›
  case check r | selfRespond r | answer r | implFlush r | implReturn r | procEnd r =>
    -- one branch: the constructor of the event, its two tests the guard
    split at hs <;> cases hs
    constructor
    · exact ‹_ ∧ _›.1
    · exact ‹_ ∧ _›.2
  case dispatch r =>
    split at hs
    · rename_i hg
      split at hs <;> cases hs
      · exact .dispatchOp r hg.1 hg.2 ‹_›
      · exact .dispatchFl r hg.1 hg.2 _ ‹_›
    · cases hs
  case flushLookup f =>
    split at hs
    · rename_i hg
      split at hs
      · cases hs
      · split at hs <;> cases hs
        · exact .lookupNone f hg.1 hg.2 _ ‹_› ‹_›
        · exact .lookupSome f hg.1 hg.2 _ ‹_› _ ‹_›
    · cases hs
  case flushMark f =>
    split at hs
    · split at hs <;> cases hs; exact .flushMark f ‹_› _ ‹_›
    · cases hs
  case flushAct f =>
    split at hs
    · split at hs <;> cases hs
      · exact .actNone f ‹_› ‹_›
      · exact .actCancel f ‹_› _ ‹_›
      · exact .actOp f ‹_› _ ‹_›
    · cases hs
  -- a call of Respond: it exists (else `h_2`) and stands at the event's program counter (else `isFalse`);
  -- `split` forgets which event it was, so the six are told apart by their order in `Ev`
  all_goals
    split at hs
    case h_2 => cases hs
    rename_i it hit
    split at hs
    case isFalse => cases hs
    rename_i hpc
  · -- mark
    split at hs <;> cases hs
    · exact .markLost _ it hit hpc ‹_›
    · exact .markWon _ it hit hpc ‹_›
  · -- post
    cases hs; exact .post _ it hit hpc
  · -- queue
    split at hs
    · cases hs; exact .queueDrop _ it hit hpc ‹_›
    · split at hs <;> cases hs; exact .queuePush _ it hit hpc ‹_› ‹_›
  · -- unlink
    split at hs
    · cases hs; exact .unlinkMid _ it hit hpc _ ‹_›
    · split at hs
      · cases hs; exact .unlinkLast _ it hit hpc ‹_› ‹_›
      · split at hs
        · cases hs; exact .unlinkNext _ it hit hpc ‹_› _ ‹_› ‹_›
        · split at hs <;> cases hs
          · exact .unlinkMove _ it hit hpc ‹_› _ ‹_› _ ‹_› ‹_›
          · exact .unlinkRestart _ it hit hpc ‹_› _ ‹_› _ ‹_› ‹_›
  · -- next
    split at hs <;> cases hs
    · exact .nextNone _ it hit hpc ‹_›
    · exact .nextStart _ it hit hpc _ ‹_›
  · -- flushes
    split at hs
    · cases hs; exact .flushesEnd _ it hit hpc ‹_›
    · split at hs <;> cases hs
      · exact .flushesAdv _ it hit hpc _ ‹_› ‹_›
      · exact .flushesCall _ it hit hpc _ ‹_› ‹_›

theorem Step.to_step {s s' : LS} {e : Ev} (h : Step s e s') : s.step e = some s' := by
  cases h <;> simp only [LS.step, *, and_self, if_true, if_false, Bool.false_eq_true]

theorem LS.isRun : Run.Of LS.step LS.run := ⟨fun _ => rfl, fun _ _ _ => rfl⟩

theorem LS.isRunT : Run.Of (fun s e => if s.tame e then s.step e else none) LS.runT :=
  ⟨fun _ => rfl, fun s e es => by rw [LS.runT]; split <;> rfl⟩

theorem LS.isRunP : Run.Of (fun s e => if s.plain e then s.step e else none) LS.runP :=
  ⟨fun _ => rfl, fun s e es => by rw [LS.runP]; split <;> rfl⟩

theorem run_cons {s s1 s' : LS} {e : Ev} {es : List Ev} (h : Step s e s1) (hr : s1.run es = some s') :
    s.run (e :: es) = some s' :=
  LS.isRun.cons_some.2 ⟨s1, h.to_step, hr⟩

theorem run_inv {P : LS → Prop} (hstep : ∀ s s' e, P s → Step s e s' → P s') :
    ∀ (es : List Ev) (s s' : LS), P s → s.run es = some s' → P s' :=
  LS.isRun.inv fun s s' e h hs => hstep s s' e h (.of_step hs)

theorem guarded_step {g : LS → Ev → Bool} {s s' : LS} {e : Ev} (h : (if g s e then s.step e else none) = some s') :
    g s e = true ∧ Step s e s' := by
  split at h
  · exact ⟨‹_›, .of_step h⟩
  · cases h

/-- `Run.Of.inv` for `LS.runT` and `LS.runP` -/
theorem guarded_inv {g : LS → Ev → Bool} {run : LS → List Ev → Option LS}
    (hrun : Run.Of (fun s e => if g s e then s.step e else none) run) {P : LS → Prop}
    (hstep : ∀ s s' e, P s → g s e = true → Step s e s' → P s') :
    ∀ (es : List Ev) (s s' : LS), P s → run s es = some s' → P s' :=
  hrun.inv fun s s' e h hs => hstep s s' e h (guarded_step hs).1 (guarded_step hs).2

theorem runT_run : ∀ (es : List Ev) (s s' : LS), s.runT es = some s' → s.run es = some s' :=
  LS.isRun.mono LS.isRunT fun _ _ _ h => (guarded_step h).2.to_step

theorem runP_run : ∀ (es : List Ev) (s s' : LS), s.runP es = some s' → s.run es = some s' :=
  LS.isRun.mono LS.isRunP fun _ _ _ h => (guarded_step h).2.to_step

end G9.Life
