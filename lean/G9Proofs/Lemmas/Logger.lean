/-
  The logger (G9.Logger).  `RInv n hist r`: `r` is what logging `hist` leaves in a ring of `n` slots; it
  gives `contents` and — the second pass of `Filter` taken stretch by stretch — `filter`.  Then the queue
  in front of the ring and the concurrent `Filter` callers.
-/
import G9.Logger
import G9Proofs.Lemmas.Run
namespace G9.Logger

theorem lastN_of_le {α} (n : Nat) (l : List α) (h : l.length ≤ n) : lastN n l = l := by
  unfold lastN; rw [Nat.sub_eq_zero_of_le h]; rfl

theorem lastN_length {α} (n : Nat) (l : List α) : (lastN n l).length = min n l.length := by
  unfold lastN; rw [List.length_drop]; omega

theorem lastN_snoc {α} (n : Nat) (l : List α) (e : α) (hn : 1 ≤ n) (h : n ≤ l.length) :
    lastN n (l ++ [e]) = (lastN n l).drop 1 ++ [e] := by
  unfold lastN
  rw [List.drop_drop, List.length_append, List.length_singleton]
  have h1 : l.length + 1 - n = (l.length - n) + 1 := by omega
  rw [h1, List.drop_append_of_le_length (by omega)]

-- Not yet full: the entries, then empty slots.  Full: split at `idx` into the newest entries `as` and, behind
-- them, the oldest `bs`.
/-- the representation invariant of the ring after logging `hist` (oldest first) -/
def RInv (n : Nat) (hist : List Entry) (r : Ring) : Prop :=
  (hist.length < n ∧ r.items = hist.map some ++ List.replicate (n - hist.length) none ∧
      r.idx = hist.length) ∨
  (n ≤ hist.length ∧ ∃ as bs : List Entry, r.items = as.map some ++ bs.map some ∧
      r.idx = as.length ∧ bs ++ as = lastN n hist)

theorem RInv_new (n : Nat) (hn : 1 ≤ n) : RInv n [] (Ring.new n) := by
  left; refine ⟨hn, ?_, rfl⟩; simp [Ring.new]

theorem log_nowrap (r : Ring) (e : Entry) (h : r.idx < r.items.length) :
    r.log e = { items := r.items.set r.idx (some e), idx := r.idx + 1 } := by
  unfold Ring.log; rw [if_neg (by omega)]

theorem log_wrap (r : Ring) (e : Entry) (h : r.idx ≥ r.items.length) :
    r.log e = { items := r.items.set 0 (some e), idx := 1 } := by
  unfold Ring.log; rw [if_pos h]

theorem RInv.idx_le {n : Nat} {hist : List Entry} {r : Ring} (h : RInv n hist r) : r.idx ≤ r.items.length := by
  rcases h with ⟨_, hi, hx⟩ | ⟨_, as, bs, hi, hx, _⟩ <;> simp [hi, hx]

theorem RInv_log (n : Nat) (hn : 1 ≤ n) (hist : List Entry) (r : Ring) (e : Entry)
    (h : RInv n hist r) : RInv n (hist ++ [e]) (r.log e) := by
  obtain ⟨items, idx⟩ := r
  have he : (hist ++ [e]).length = hist.length + 1 := List.length_append
  rcases h with ⟨hl, hi, hx⟩ | ⟨hl, as, bs, hi, hx, hb⟩
  · -- not yet full: the first `none` is overwritten; if it was the last one the ring is full
    simp only at hi hx; subst hi hx
    obtain ⟨k, hk⟩ : ∃ k, n - hist.length = k + 1 := ⟨n - hist.length - 1, by omega⟩
    rw [hk, log_nowrap _ _ (by simp), List.replicate_succ]
    cases k with
    | zero =>
      exact .inr ⟨by omega, hist ++ [e], [], by simp, by simp, by rw [lastN_of_le _ _ (by omega)]; rfl⟩
    | succ k => exact .inl ⟨by omega, by simp; omega, by simp⟩
  · -- full: the oldest entry is overwritten, the head of `bs` or, with `idx` at the end, of `as`
    simp only at hi hx; subst hi hx
    have hlen := congrArg List.length hb
    rw [lastN_length] at hlen
    refine .inr ⟨by omega, ?_⟩
    rw [lastN_snoc n hist e hn hl, ← hb]
    match bs, as with
    | b :: bs, as =>
      rw [log_nowrap _ _ (by simp)]
      exact ⟨as ++ [e], bs, by simp, by simp, by simp⟩
    | [], a :: as =>
      rw [log_wrap _ _ (by simp)]
      exact ⟨[e], as, by simp, by simp, by simp⟩
    | [], [] => simp only [List.append_nil, List.length_nil] at hlen; omega

/-- at `idx = len` the wrap to 0 changes nothing: nothing lies after `idx` -/
theorem contents_eq (r : Ring) (h : r.idx ≤ r.items.length) :
    r.contents = (r.items.drop r.idx ++ r.items.take r.idx).filterMap id := by
  unfold Ring.contents
  split
  · simp [Nat.le_antisymm h ‹_›]
  · rfl

theorem RInv_contents (n : Nat) (hist : List Entry) (r : Ring) (h : RInv n hist r) :
    r.contents = lastN n hist := by
  rw [contents_eq r h.idx_le]
  rcases h with ⟨hl, hi, hx⟩ | ⟨hl, as, bs, hi, hx, hb⟩
  · rw [hx, hi, List.drop_left' (by simp), List.take_left' (by simp), lastN_of_le _ _ (by omega)]
    simp
  · rw [hx, hi, List.drop_left' (by simp), List.take_left' (by simp), ← hb]
    simp

/-- matching entries of a stretch of the ring, in order -/
def ms (fo : Option Nat) (ft : Nat) (l : List (Option Entry)) : List Entry :=
  (l.filterMap id).filter (sel fo ft)

theorem ms_nil (fo ft) : ms fo ft [] = [] := rfl
theorem ms_append (fo ft) (a b : List (Option Entry)) : ms fo ft (a ++ b) = ms fo ft a ++ ms fo ft b := by
  simp [ms, List.filterMap_append]
theorem ms_cons_none (fo ft) (l) : ms fo ft (none :: l) = ms fo ft l := by simp [ms]
theorem ms_cons_some (fo ft) (e : Entry) (l) :
    ms fo ft (some e :: l) = if sel fo ft e then e :: ms fo ft l else ms fo ft l := by
  simp [ms, List.filter_cons]

theorem scan_zero (r : Ring) (fo ft fuel i) : r.scan fo ft fuel 0 i = some [] := by
  cases fuel <;> rfl

theorem scan_at (r : Ring) (fo ft fuel need i) (hi : i < r.items.length) :
    r.scan fo ft (fuel + 1) (need + 1) i =
      match r.items[i] with
      | some e =>
        if sel fo ft e then (r.scan fo ft fuel need (i + 1)).map (e :: ·)
        else r.scan fo ft fuel (need + 1) (i + 1)
      | none => r.scan fo ft fuel (need + 1) (i + 1) := by
  rw [Ring.scan]
  simp only [if_neg (show ¬ i ≥ r.items.length by omega), List.getElem?_eq_getElem hi]
  cases r.items[i] <;> rfl

theorem scan_wrap (r : Ring) (fo ft fuel need) :
    r.scan fo ft fuel need r.items.length = r.scan fo ft fuel need 0 := by
  cases need with
  | zero => rw [scan_zero, scan_zero]
  | succ need =>
    cases fuel with
    | zero => rfl
    | succ fuel => simp only [Ring.scan, ge_iff_le, Nat.le_refl, if_true, ite_self]

/-- Scanning from `i` to the end of the ring collects the first `need` matches of that stretch and
    carries on at the end for the rest. -/
theorem scan_stretch (r : Ring) (fo ft) (k : Nat) : ∀ (i need fuel : Nat), i + k = r.items.length → k ≤ fuel →
    r.scan fo ft fuel need i =
      (r.scan fo ft (fuel - k) (need - (ms fo ft (r.items.drop i)).length) r.items.length).map
        ((ms fo ft (r.items.drop i)).take need ++ ·) := by
  induction k with
  | zero => intro i need fuel hi _; simp [show i = r.items.length from hi, ms_nil]
  | succ k ih =>
    intro i need fuel hi hf
    cases need with
    | zero => simp [scan_zero]
    | succ need =>
      cases fuel with
      | zero => exact absurd hf (Nat.not_succ_le_zero k)
      | succ fuel =>
        have ih := fun need => ih (i + 1) need fuel (by omega) (by omega)
        have hlt : i < r.items.length := by omega
        rw [scan_at r fo ft fuel need i hlt, List.drop_eq_getElem_cons hlt]
        cases r.items[i] with
        | none => simpa [ms_cons_none] using ih (need + 1)
        | some e =>
          by_cases hs : sel fo ft e = true
          · simp [ms_cons_some, hs, ih need, Function.comp_def]
          · simpa [ms_cons_some, hs] using ih (need + 1)

theorem count_eq_ms (r : Ring) (fo ft) : r.count fo ft = (ms fo ft r.items).length := by
  simp [Ring.count, ms, List.countP_eq_length_filter]

/-- the matches in the circular order that starts at `idx`: the stretch from `idx` to the end, then, from
    the start of the ring, what is still missing -/
theorem filter_eq (r : Ring) (fo ft) (hidx : r.idx ≤ r.items.length) :
    r.filter fo ft = some (r.contents.filter (sel fo ft)) := by
  have hms : ms fo ft r.items = ms fo ft (r.items.take r.idx) ++ ms fo ft (r.items.drop r.idx) := by
    rw [← ms_append, List.take_append_drop]
  rw [Ring.filter, count_eq_ms, hms, List.length_append,
    scan_stretch r fo ft (r.items.length - r.idx) r.idx _ _ (by omega) (by omega), scan_wrap,
    scan_stretch r fo ft r.items.length 0 _ _ (by omega) (by omega), contents_eq r hidx]
  -- the first stretch has no more matches than asked for, the whole ring no fewer than then missing
  simp [hms, scan_zero, List.take_of_length_le]
  rfl

theorem RInv_filter (n : Nat) (hist : List Entry) (r : Ring) (h : RInv n hist r) (fo : Option Nat) (ft : Nat) :
    r.filter fo ft = some ((lastN n hist).filter (sel fo ft)) := by
  rw [filter_eq r fo ft h.idx_le, RInv_contents n hist r h]

theorem Sys.isRun : Run.Of (fun s ev => if s.enabled ev then some (s.step ev) else none) Sys.run :=
  ⟨fun _ => rfl, fun s ev evs => by rw [Sys.run]; split <;> rfl⟩

theorem FSys.isRun : Run.Of FSys.step FSys.run := ⟨fun _ => rfl, fun _ _ _ => rfl⟩

theorem processed_grows (s : Sys) (ev : Ev) : s.processed <+: (s.step ev).processed := by
  cases ev with
  | enqueue e => simp [Sys.step]
  | dequeue => unfold Sys.step; cases s.queue <;> simp

theorem FSys.step_some {s s' : FSys} {ev : FEv} (h : s.step ev = some s') :
    match ev with
    | .log e => s.sys.enabled e = true ∧ s' = { s with sys := s.sys.step e }
    | .ask a => s.serving = none ∧
        s' = { s with serving := some { ask := a, ans := s.sys.ring.filter a.fo a.ft, seen := s.sys.processed } }
    | .deliver => ∃ x, s.serving = some x ∧ s' = { s with serving := none, delivered := s.delivered ++ [x] } := by
  cases ev with
  | log e => cases e <;> simp only [FSys.step] at h <;> split at h <;> cases h <;> exact ⟨by simp_all, rfl⟩
  | ask a => simp only [FSys.step] at h; split at h <;> cases h; exact ⟨by simpa using ‹s.serving.isNone = true›, rfl⟩
  | deliver => simp only [FSys.step] at h; split at h <;> cases h; exact ⟨_, ‹_›, rfl⟩

end G9.Logger

namespace G9.C20
open G9.Logger

-- Entries leave the queue in the order of the `Log` calls (`split`); the ring has seen exactly those taken.
structure SInv (n : Nat) (s : Sys) : Prop where
  split : s.processed ++ s.queue = s.enqueued
  ring : RInv n s.processed s.ring
  cap : s.queue.length ≤ qcap

theorem sinv_init (n : Nat) (hn : 1 ≤ n) : SInv n (Sys.init n) :=
  ⟨rfl, RInv_new n hn, by simp [Sys.init]⟩

theorem sinv_step (n : Nat) (hn : 1 ≤ n) (s : Sys) (ev : Ev) (h : SInv n s) (hen : s.enabled ev = true) :
    SInv n (s.step ev) := by
  cases ev with
  | enqueue e =>
    simp [Sys.enabled] at hen
    exact ⟨by simp [Sys.step, ← h.split], h.ring,
      by simp only [Sys.step, List.length_append, List.length_singleton]; omega⟩
  | dequeue =>
    cases hq : s.queue with
    | nil => simp [Sys.enabled, hq] at hen
    | cons e q =>
      obtain ⟨hs, hr, hc⟩ := h
      rw [hq] at hs hc
      simp only [Sys.step, hq]
      exact ⟨by simp [← hs], RInv_log n hn _ _ e hr, Nat.le_of_succ_le hc⟩

-- Every answer of `Filter`, delivered or being served, is the filter of the ring as it was after `seen`, a
-- prefix of what is processed by now; a later answer has seen at least as much (`mono`).
structure FInv (n : Nat) (s : FSys) : Prop where
  sys : SInv n s.sys
  answers : ∀ x, (x ∈ s.delivered ∨ s.serving = some x) →
    x.ans = some ((lastN n x.seen).filter (sel x.ask.fo x.ask.ft)) ∧ x.seen <+: s.sys.processed
  mono : (s.delivered ++ s.serving.toList).Pairwise (fun x y => x.seen <+: y.seen)

theorem finv_init (n : Nat) (hn : 1 ≤ n) : FInv n (FSys.init n) :=
  ⟨sinv_init n hn, by intro x hx; simp [FSys.init] at hx, by simp [FSys.init]⟩

theorem finv_step (n : Nat) (hn : 1 ≤ n) (s s' : FSys) (ev : FEv) (h : FInv n s) (hs : s.step ev = some s') :
    FInv n s' := by
  have hs := FSys.step_some hs
  cases ev with
  | log e =>
    obtain ⟨hen, rfl⟩ := hs
    exact ⟨sinv_step n hn _ _ h.sys hen,
      fun x hx => ⟨(h.answers x hx).1, (h.answers x hx).2.trans (processed_grows _ _)⟩, h.mono⟩
  | ask a =>
    obtain ⟨hsv, rfl⟩ := hs
    have hm := h.mono
    simp only [hsv, Option.toList_none, List.append_nil] at hm
    refine ⟨h.sys, ?_, List.pairwise_append.2 ⟨hm, by simp, fun x hx y hy => ?_⟩⟩
    · rintro x (hx | hx)
      · exact h.answers x (.inl hx)
      · cases hx; exact ⟨RInv_filter n _ _ h.sys.ring _ _, List.prefix_refl _⟩
    · cases List.mem_singleton.1 hy; exact (h.answers x (.inl hx)).2
  | deliver =>
    obtain ⟨x, hx, rfl⟩ := hs
    refine ⟨h.sys, ?_, by simpa [hx] using h.mono⟩
    rintro y (hy | ⟨⟨⟩⟩)
    rcases List.mem_append.1 hy with hy | hy
    · exact h.answers y (.inl hy)
    · cases List.mem_singleton.1 hy; exact h.answers _ (.inr hx)

end G9.C20
