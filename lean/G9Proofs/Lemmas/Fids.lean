/-
  What each operation on the fid table does to `lookup`: every one of them replaces the entry
  under one number and leaves the others alone.
-/
import G9.SrvSeq
namespace G9.Srv

theorem lookup_nil (k : UInt32) : lookup [] k = none := rfl

theorem lookup_cons (p : UInt32 × FidRec) (fs : Fids) (k : UInt32) :
    lookup (p :: fs) k = if p.1 = k then some p.2 else lookup fs k := by
  unfold lookup
  by_cases h : p.1 = k <;> simp [h]

theorem lookup_modFid (fs : Fids) (k k' : UInt32) (g : FidRec → FidRec) :
    lookup (modFid fs k g) k' = if k' = k then (lookup fs k').map g else lookup fs k' := by
  induction fs with
  | nil => exact (ite_self _).symm
  | cons p fs ih =>
    unfold modFid at ih ⊢
    rw [List.map_cons, lookup_cons, lookup_cons, ih]
    by_cases h1 : p.1 = k
    · rw [if_pos (beq_iff_eq.2 h1)]
      subst h1
      by_cases h2 : k' = p.1
      · subst h2; simp
      · have h3 : ¬ p.1 = k' := fun e => h2 e.symm
        simp [h2, h3]
    · rw [if_neg (fun e => h1 (beq_iff_eq.1 e))]
      by_cases h2 : k' = k
      · subst h2; simp [h1]
      · simp [h2]

theorem modFid_id (fs : Fids) (k : UInt32) : modFid fs k (fun r => r) = fs := by
  refine (List.map_congr_left fun p _ => ?_).trans (List.map_id fs)
  split
  · rename_i h; rw [← beq_iff_eq.1 h]; rfl
  · rfl

theorem modFid_modFid (fs : Fids) (k : UInt32) (g h : FidRec → FidRec) :
    modFid (modFid fs k g) k h = modFid fs k (fun x => h (g x)) := by
  unfold modFid
  rw [List.map_map]
  refine List.map_congr_left (fun p _ => ?_)
  by_cases hp : (p.1 == k) = true
  · simp only [Function.comp, if_pos hp, beq_self_eq_true, if_true]
  · simp only [Function.comp, if_neg hp]

theorem lookup_incRef (fs : Fids) (k k' : UInt32) :
    lookup (incRef fs k) k' =
      if k' = k then (lookup fs k').map (fun r => { r with ref := r.ref + 1 }) else lookup fs k' :=
  lookup_modFid fs k k' _

theorem lookup_erase (fs : Fids) (k k' : UInt32) :
    lookup (erase fs k) k' = if k' = k then none else lookup fs k' := by
  unfold lookup erase
  rw [List.find?_filter]
  by_cases h : k' = k
  · rw [if_pos h, List.find?_eq_none.2 (by simp [h])]; rfl
  · rw [if_neg h]
    congr 2; funext a
    by_cases ha : a.1 = k' <;> simp [ha, h]

theorem fidNew_some {fs fs' : Fids} {k : UInt32} {u : Nat} (h : fidNew fs k u = some fs') :
    lookup fs k = none ∧ ∀ k', lookup fs' k' = if k' = k then some { user := u } else lookup fs k' := by
  unfold fidNew at h
  cases hn : lookup fs k with
  | some _ => rw [hn] at h; cases h
  | none =>
    rw [hn] at h; cases h
    refine ⟨rfl, fun k' => ?_⟩
    rw [lookup_cons]
    by_cases h2 : k' = k
    · rw [if_pos h2.symm, if_pos h2]
    · rw [if_neg (fun e => h2 e.symm), if_neg h2]

theorem fidNew_none (fs : Fids) (k : UInt32) (u : Nat) : fidNew fs k u = none ↔ (lookup fs k).isSome := by
  unfold fidNew
  cases lookup fs k <;> simp

/-- what `DecRef` leaves of a record -/
def FidRec.dec (r : FidRec) : Option FidRec := if r.ref ≤ 1 then none else some { r with ref := r.ref - 1 }

theorem lookup_decRef (fs : Fids) (k k' : UInt32) :
    lookup (decRef fs k).1 k' = if k' = k then (lookup fs k').bind FidRec.dec else lookup fs k' := by
  unfold decRef
  by_cases hk : k' = k
  · subst hk
    rw [if_pos rfl]
    cases h : lookup fs k' with
    | none => exact h
    | some r =>
      unfold FidRec.dec
      by_cases h1 : r.ref ≤ 1
      · simp only [if_pos h1, Option.bind]; rw [lookup_erase, if_pos rfl]
      · simp only [if_neg h1, Option.bind]; rw [lookup_modFid, if_pos rfl, h]; rfl
  · rw [if_neg hk]
    cases lookup fs k with
    | none => rfl
    | some r => dsimp only; split <;> simp [lookup_erase, lookup_modFid, hk]

theorem decRef_destroyed (fs : Fids) (k : UInt32) :
    (decRef fs k).2 = match lookup fs k with
      | none => []
      | some r => if r.ref ≤ 1 then [k] else [] := by
  unfold decRef
  cases lookup fs k with
  | none => rfl
  | some r => dsimp only; split <;> rfl

end G9.Srv
