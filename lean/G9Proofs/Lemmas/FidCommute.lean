/-
  Why the fid-table acceptor may replay a `retain` that read `conn.done` open *after* regions that
  were logged before it: the open variant of retain on object `o` commutes with every event that
  does not concern `o`.
-/
import G9Proofs.Lemmas.FidLife
namespace G9.FidLife

/-- the effect of `retain o` on a connection that is still open -/
def retainOpen (s : FS) (o : Nat) : FS :=
  setO s o { (s.obj o) with ref := (s.obj o).ref + 1, tbl := true, pending := false }

/-- the object an event works on, if any (`visit`: the head of Conn.close's copy) -/
def target (s : FS) : FEv → Option Nat
  | .get o | .retain o | .inc o | .release o | .dec o | .unpool o | .dstr o | .call o => some o
  | .visit => s.snap.bind List.head?
  | _ => none

theorem target_of_objOf {s : FS} {e : FEv} {o : Nat} (h : objOf e = some o) : target s e = some o := by
  cases e <;> cases h <;> rfl

theorem updO_comm (f : Nat → FObj) {i j : Nat} (v w : FObj) (h : i ≠ j) :
    updO (updO f i v) j w = updO (updO f j w) i v := by
  funext n
  unfold updO
  by_cases hj : n = j
  · rw [if_pos hj, if_neg (hj ▸ h.symm), if_pos hj]
  · rw [if_neg hj, if_neg hj]

theorem obj_retainOpen_other (s : FS) (o o' : Nat) (h : o' ≠ o) : (retainOpen s o).obj o' = s.obj o' :=
  updO_other _ _ _ _ h

theorem setO_retainOpen (s : FS) (o o' : Nat) (v : FObj) (h : o' ≠ o) :
    setO (retainOpen s o) o' v = retainOpen (setO s o' v) o := by
  simp only [retainOpen, setO, updO_other _ _ _ _ h.symm, updO_comm _ _ _ h.symm]

theorem inpool_retainOpen (s : FS) (o x : Nat) : (retainOpen s o).inpool x ↔ s.inpool x := by
  unfold FS.inpool
  rw [show ((retainOpen s o).obj x).num = (s.obj x).num from updO_num fun _ => rfl]
  exact Iff.rfl

theorem step_retainOpen (s : FS) (o : Nat) (e : FEv) (ho : o < s.n) (ht : target s e ≠ some o) :
    (retainOpen s o).step e = (s.step e).map (retainOpen · o) := by
  have hn : (retainOpen s o).n = s.n := rfl
  have hp : (retainOpen s o).pool = s.pool := rfl
  have hc : (retainOpen s o).closed = s.closed := rfl
  have hsn : (retainOpen s o).snap = s.snap := rfl
  cases he : objOf e with
  | some o' =>
    -- another object's event: the same `objStep`, and the two updates commute
    have hne : o' ≠ o := fun h => ht (h ▸ target_of_objOf he)
    rw [step_obj _ _ _ he, step_obj _ _ _ he, hn, hc, obj_retainOpen_other s o o' hne]
    split
    · rw [Option.map_map]
      exact congrArg (Option.map · _) (funext fun v => setO_retainOpen s o o' v hne)
    · rfl
  | none =>
  -- the others test and change table, flag and snapshot, which `retainOpen` leaves alone
  cases e with
  | get | retain | inc | release | dec | dstr | call => cases he
  | look k r => simp only [FS.step, hn, hp]; split <;> rfl
  | closeDone => simp only [FS.step, hc]; split <;> rfl
  | snapshot l => simp only [FS.step, hn, hc, hsn, inpool_retainOpen]; split <;> rfl
  | unpool o' =>
    have hne : o' ≠ o := fun h => ht (by simp [target, h])
    simp only [FS.step, hn, hp, obj_retainOpen_other s o o' hne, setO_retainOpen _ _ _ _ hne]
    split
    · split <;> rfl
    · rfl
  | visit =>
    simp only [FS.step, hsn]
    split
    · rename_i o' rest hsnap
      have hne : o' ≠ o := fun h => ht (by simp [target, hsnap, h])
      simp only [obj_retainOpen_other s o o' hne, setO_retainOpen _ _ _ _ hne]
      split <;> rfl
    · rfl
  | new k =>
    simp only [FS.step, hn, hp]
    split
    · rfl
    · have hne : o ≠ s.n := Nat.ne_of_lt ho
      simp only [Option.map_some, retainOpen, setO, updO_other _ _ _ _ hne, updO_comm _ _ _ hne]

theorem retainOpen_commutes_run (o : Nat) : ∀ (es : List FEv) (s s' : FS), o < s.n →
    (∀ (pre : List FEv) (e : FEv) (post : List FEv) (t : FS), es = pre ++ e :: post → s.run pre = some t →
      target t e ≠ some o) →
    s.run es = some s' → (retainOpen s o).run es = some (retainOpen s' o)
  | [], s, s', _, _, hs => by cases FS.isRun.nil_some.1 hs; rfl
  | e :: es, s, s', ho, ht, hs =>
    have ⟨s1, h1, hs⟩ := FS.isRun.cons_some.1 hs
    FS.isRun.cons_some.2 ⟨_, by rw [step_retainOpen s o e ho (ht [] e es s rfl rfl), h1]; rfl,
      retainOpen_commutes_run o es s1 s' (Nat.lt_of_lt_of_le ho (step_n_le h1))
        (fun pre e' post t hes hrun => ht (e :: pre) e' post t (congrArg _ hes) (FS.isRun.cons_some.2 ⟨s1, h1, hrun⟩))
        hs⟩

end G9.FidLife
