/-
  The reply buffers of a connection (G9.BufPool): every step keeps `C12.BInv`, because a Tversion
  only lowers the msize and a pooled buffer is only cut.
-/
import G9.BufPool
import G9Proofs.Lemmas.Run

namespace G9.BufPool

theorem BS.isRun : Run.Of BS.step BS.run := ⟨fun _ => rfl, fun _ _ _ => rfl⟩

end G9.BufPool

namespace G9.C12
open G9.BufPool

/-- every reply buffer, pooled or in use, is at least as long as the connection's msize, and the
    msize can carry an I/O header -/
structure BInv (s : BS) : Prop where
  hdr : BufPool.IOHDRSZ ≤ s.msize
  pool : ∀ b ∈ s.pool, s.msize ≤ b
  out : ∀ b ∈ s.out, s.msize ≤ b

theorem binv_init (srvMsize : Nat) (h : BufPool.IOHDRSZ ≤ srvMsize) : BInv (BS.init srvMsize) :=
  ⟨h, by simp [BS.init], by simp [BS.init]⟩

theorem cut_of_le {b m : Nat} (h : m ≤ b) : cut b m = m := by
  unfold cut; split <;> omega

theorem bstep_some {s s' : BS} {e : BEv} (h : s.step e = some s') :
    match e with
    | .version _ => ∃ m, s' = { s with msize := m } ∧ m ≤ s.msize ∧ (m = s.msize ∨ BufPool.IOHDRSZ ≤ m)
    | .takePooled => ∃ b rest, s.pool = b :: rest ∧ s' = { s with pool := rest, out := s.out ++ [cut b s.msize] }
    | .takeFresh => s' = { s with out := s.out ++ [s.msize] }
    | .give i => ∃ b ∈ s.out, s' = { s with pool := s.pool ++ [b], out := s.out.eraseIdx i }
    | .drop i => s' = { s with out := s.out.eraseIdx i } := by
  cases e <;> simp only [BS.step] at h ⊢
  case version m =>
    split at h <;> cases h
    · exact ⟨s.msize, rfl, Nat.le_refl _, .inl rfl⟩
    · exact ⟨_, rfl, by split <;> omega, by split <;> omega⟩
  case takePooled =>
    split at h <;> cases h
    exact ⟨_, _, ‹_›, rfl⟩
  case takeFresh =>
    split at h <;> cases h
    rfl
  case give i =>
    split at h
    · split at h <;> cases h
      exact ⟨_, List.mem_of_getElem? ‹_›, rfl⟩
    · cases h
  case drop i =>
    split at h <;> cases h
    rfl

theorem binv_step (s s' : BS) (e : BEv) (h : BInv s) (hs : s.step e = some s') : BInv s' := by
  have hs := bstep_some hs
  cases e with
  | version _ =>
    obtain ⟨m, rfl, hm, hm'⟩ := hs
    exact ⟨hm'.elim (· ▸ h.hdr) id, fun b hb => Nat.le_trans hm (h.pool b hb), fun b hb => Nat.le_trans hm (h.out b hb)⟩
  | takePooled =>
    obtain ⟨b, rest, hp, rfl⟩ := hs
    have hb := h.pool b (hp ▸ List.mem_cons_self)
    exact ⟨h.hdr, fun x hx => h.pool x (hp ▸ List.mem_cons_of_mem _ hx),
      List.forall_mem_append.2 ⟨h.out, List.forall_mem_singleton.2 (Nat.le_of_eq (cut_of_le hb).symm)⟩⟩
  | takeFresh =>
    cases hs
    exact ⟨h.hdr, h.pool, List.forall_mem_append.2 ⟨h.out, List.forall_mem_singleton.2 (Nat.le_refl _)⟩⟩
  | give i =>
    obtain ⟨b, hb, rfl⟩ := hs
    exact ⟨h.hdr, List.forall_mem_append.2 ⟨h.pool, List.forall_mem_singleton.2 (h.out b hb)⟩,
      fun x hx => h.out x ((List.eraseIdx_sublist _ _).subset hx)⟩
  | drop i =>
    cases hs
    exact ⟨h.hdr, h.pool, fun x hx => h.out x ((List.eraseIdx_sublist _ _).subset hx)⟩

end G9.C12
