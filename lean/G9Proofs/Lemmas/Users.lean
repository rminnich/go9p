/-
  The user a fid number is bound to, and what each table operation does to the binding.
-/
import G9Proofs.Lemmas.Refs
namespace G9.Srv

/-- the user a fid number is bound to, if it is in the table -/
def userAt (fs : Fids) (k : UInt32) : Option Nat := (lookup fs k).map (·.user)

theorem userAt_of_lookup {fs : Fids} {k : UInt32} {r : FidRec} (h : lookup fs k = some r) :
    userAt fs k = some r.user := by unfold userAt; rw [h]; rfl

theorem userAt_modFid_keep (fs : Fids) (k k' : UInt32) (g : FidRec → FidRec)
    (hg : ∀ r, (g r).user = r.user) : userAt (modFid fs k g) k' = userAt fs k' := by
  unfold userAt
  rw [lookup_modFid]
  by_cases h : k' = k <;> simp [h, hg, Function.comp_def]

theorem userAt_incRef (fs : Fids) (k k' : UInt32) : userAt (incRef fs k) k' = userAt fs k' :=
  userAt_modFid_keep fs k k' _ (fun _ => rfl)

def Binds (fs : Fids) (k0 : UInt32) (u : Nat) (fs' : Fids) : Prop :=
  userAt fs k0 = none ∧ ∀ k, userAt fs' k = if k = k0 then some u else userAt fs k

theorem binds_fidNew {fs fs' : Fids} {k : UInt32} {u : Nat} (h : fidNew fs k u = some fs') : Binds fs k u fs' := by
  obtain ⟨h0, h1⟩ := fidNew_some h
  unfold Binds userAt
  rw [h0]
  refine ⟨rfl, fun k' => ?_⟩
  rw [h1]
  split <;> rfl

theorem Binds.after {fs0 fs fs' : Fids} {k0 : UInt32} {u : Nat} (h : Binds fs0 k0 u fs')
    (h0 : ∀ k, userAt fs0 k = userAt fs k) : Binds fs k0 u fs' :=
  ⟨h0 k0 ▸ h.1, fun k => h0 k ▸ h.2 k⟩

theorem Binds.then {fs fs1 fs2 : Fids} {k0 : UInt32} {u : Nat} (h : Binds fs k0 u fs1)
    (h2 : ∀ k, userAt fs2 k = userAt fs1 k) : Binds fs k0 u fs2 :=
  ⟨h.1, fun k => (h2 k).trans (h.2 k)⟩

/-- Tauth, Tattach: `FidNew` comes before the user lookup -/
theorem Binds.set {fs fs1 : Fids} {k0 : UInt32} {u0 u : Nat} {g : FidRec → FidRec} (h : Binds fs k0 u0 fs1)
    (hg : ∀ x, (g x).user = u) : Binds fs k0 u (modFid fs1 k0 g) := by
  refine ⟨h.1, fun k => ?_⟩
  have h1 := h.2 k
  unfold userAt at h1 ⊢
  rw [lookup_modFid]
  by_cases hk : k = k0
  · rw [if_pos hk] at h1
    rw [if_pos hk, if_pos hk]
    cases hl : lookup fs1 k with
    | none => rw [hl] at h1; cases h1
    | some r => exact congrArg some (hg r)
  · rw [if_neg hk] at h1
    rw [if_neg hk, if_neg hk]; exact h1

def Shrinks (fs fs' : Fids) : Prop := ∀ k, userAt fs' k = none ∨ userAt fs' k = userAt fs k

theorem Shrinks.refl (fs : Fids) : Shrinks fs fs := fun _ => Or.inr rfl

theorem Shrinks.trans {a b c : Fids} (h1 : Shrinks a b) (h2 : Shrinks b c) : Shrinks a c := by
  intro k
  rcases h2 k with h | h
  · exact Or.inl h
  · rw [h]; exact h1 k

theorem shrinks_decRef (fs : Fids) (k : UInt32) : Shrinks fs (decRef fs k).1 := by
  intro k'
  unfold userAt
  rw [lookup_decRef]
  split
  · cases lookup fs k' with
    | none => exact .inl rfl
    | some r =>
      unfold FidRec.dec; dsimp only [Option.bind]
      split
      · exact .inl rfl
      · exact .inr rfl
  · exact .inr rfl

theorem shrinks_decRefs (fs : Fids) (ks : List UInt32) : Shrinks fs (decRefs fs ks).1 := by
  induction ks generalizing fs with
  | nil => exact Shrinks.refl fs
  | cons k ks ih =>
    simp only [decRefs]
    exact Shrinks.trans (shrinks_decRef fs k) (ih _)

/-- who a request binds a new fid to: Tauth/Tattach the user the request names, Twalk the user
    of the fid walked from; no other request binds anything -/
def NewBy (cfg : Cfg) (c : Conn) (t : Msg) (k : UInt32) (u : Nat) : Prop :=
  match t with
  | .tauth afid un _ n => k = afid ∧ userOf cfg c un n = some u
  | .tattach fid _ un _ n => k = fid ∧ userOf cfg c un n = some u
  | .twalk f nf _ => k = nf ∧ userAt c.fids f = some u
  | _ => False

end G9.Srv
