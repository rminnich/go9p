/-
  What the directory branch of `Ufs.Read` (`window`) rests on: `sort.SearchInts` on a strictly increasing
  slice, said without indices (the element at the returned index is the least one not below `x`, the one
  before it the greatest below `x`), and a directory snapshot (`Snap`: the ends of its entries).
-/
import G9.UfsLogic
namespace G9.Ufs

theorem searchInts_le (a : List Nat) (x : Nat) : searchInts a x ≤ a.length :=
  (List.takeWhile_sublist _).length_le

theorem searchInts_cons (b : Nat) (a : List Nat) (x : Nat) :
    searchInts (b :: a) x = if b < x then searchInts a x + 1 else 0 := by
  unfold searchInts
  rw [List.takeWhile_cons]
  by_cases h : b < x <;> simp [h]

theorem getD_mem {a : List Nat} {j : Nat} (h : j < a.length) : a.getD j 0 ∈ a :=
  List.getElem_eq_getD (h := h) 0 ▸ List.getElem_mem h

theorem mem_iff_getD {a : List Nat} {e : Nat} : e ∈ a ↔ ∃ j, j < a.length ∧ a.getD j 0 = e := by
  simp only [List.mem_iff_getElem, List.getElem_eq_getD 0, exists_prop]

section sorted
variable {a : List Nat} (hs : a.Pairwise (· < ·))
include hs

theorem sorted_getD_le {i j : Nat} (hij : i ≤ j) (hj : j < a.length) : a.getD i 0 ≤ a.getD j 0 := by
  rw [← List.getElem_eq_getD (h := Nat.lt_of_le_of_lt hij hj), ← List.getElem_eq_getD (h := hj)]
  rcases Nat.eq_or_lt_of_le hij with rfl | hlt
  · exact Nat.le_refl _
  · exact Nat.le_of_lt (List.pairwise_iff_getElem.1 hs i j _ hj hlt)

theorem lt_searchInts_iff {x j : Nat} (hj : j < a.length) : j < searchInts a x ↔ a.getD j 0 < x := by
  induction a generalizing j with
  | nil => simp at hj
  | cons b a ih =>
    rw [searchInts_cons]
    obtain ⟨hb, hs'⟩ := List.pairwise_cons.1 hs
    cases j with
    | zero => rw [List.getD_cons_zero]; split <;> omega
    | succ j =>
      have hj' : j < a.length := Nat.lt_of_succ_lt_succ hj
      have := hb _ (getD_mem hj')
      have := ih hs' hj'
      rw [List.getD_cons_succ]
      split <;> omega

theorem search_above (x : Nat) :
    (searchInts a x < a.length → a.getD (searchInts a x) 0 ∈ a ∧ x ≤ a.getD (searchInts a x) 0) ∧
    ∀ e ∈ a, x ≤ e → searchInts a x < a.length ∧ a.getD (searchInts a x) 0 ≤ e := by
  refine ⟨fun h => ⟨getD_mem h, by have := lt_searchInts_iff hs (x := x) h; omega⟩, fun e he hxe => ?_⟩
  obtain ⟨j, hj, rfl⟩ := mem_iff_getD.1 he
  have := lt_searchInts_iff hs (x := x) hj
  exact ⟨by omega, sorted_getD_le hs (by omega) hj⟩

theorem search_below (x : Nat) :
    (0 < searchInts a x → a.getD (searchInts a x - 1) 0 ∈ a ∧ a.getD (searchInts a x - 1) 0 < x) ∧
    ∀ e ∈ a, e < x → 0 < searchInts a x ∧ e ≤ a.getD (searchInts a x - 1) 0 := by
  have hle := searchInts_le a x
  refine ⟨fun h => ⟨getD_mem (by omega), (lt_searchInts_iff hs (by omega)).1 (by omega)⟩, fun e he hex => ?_⟩
  obtain ⟨j, hj, rfl⟩ := mem_iff_getD.1 he
  have hjm := (lt_searchInts_iff hs hj).2 hex
  exact ⟨by omega, sorted_getD_le hs (by omega) (by omega)⟩

/-- the test `i < len(a) && a[i] == x` of a binary search is membership -/
theorem search_mem_iff (x : Nat) :
    x ∈ a ↔ searchInts a x < a.length ∧ a.getD (searchInts a x) 0 = x := by
  obtain ⟨h1, h2⟩ := search_above hs x
  refine ⟨fun hx => ?_, fun ⟨hlt, he⟩ => he ▸ getD_mem hlt⟩
  obtain ⟨hlt, hle⟩ := h2 x hx (Nat.le_refl x)
  exact ⟨hlt, Nat.le_antisymm hle (h1 hlt).2⟩

theorem sorted_getLastD (hne : a ≠ []) (d : Nat) : a.getLastD d ∈ a ∧ ∀ e ∈ a, e ≤ a.getLastD d := by
  have hlt : a.length - 1 < a.length := by have := List.length_pos_iff.mpr hne; omega
  have hl : a.getLastD d = a.getD (a.length - 1) 0 := by simp [List.getLast?_eq_getElem?, hlt]
  rw [hl]
  refine ⟨getD_mem hlt, fun e he => ?_⟩
  obtain ⟨j, hj, rfl⟩ := mem_iff_getD.1 he
  exact sorted_getD_le hs (by omega) hlt

end sorted

/-- what a directory snapshot looks like: strictly increasing entry ends, all positive, the
    last one being the total length -/
structure Snap (ends : List Nat) (total : Nat) : Prop where
  sorted : ends.Pairwise (· < ·)
  pos : ∀ e ∈ ends, 0 < e
  tot : total = ends.getLastD 0

theorem Snap.le_total {ends : List Nat} {total : Nat} (h : Snap ends total) : ∀ e ∈ ends, e ≤ total :=
  fun e he => h.tot ▸ (sorted_getLastD h.sorted (List.ne_nil_of_mem he) 0).2 e he

theorem Snap.total_mem {ends : List Nat} {total : Nat} (h : Snap ends total) (ht : 0 < total) :
    total ∈ ends := by
  have hne : ends ≠ [] := by
    rintro rfl
    exact Nat.ne_of_gt ht h.tot
  exact h.tot ▸ (sorted_getLastD h.sorted hne 0).1

theorem Snap.none_beyond_total {ends : List Nat} {total : Nat} (h : Snap ends total) :
    ends.filter (total < ·) = [] :=
  List.filter_eq_nil_iff.2 fun e he => by
    have := h.le_total e he
    simp only [decide_eq_true_eq]; omega

/-- the successful outcome: a stretch of whole entries starting at `off`, as many as fit -/
def GoodWin (ends : List Nat) (total off cnt c : Nat) : Prop :=
  off + c ≤ total ∧ c ≤ cnt ∧ (c = 0 ∨ off + c ∈ ends) ∧
  (∀ e ∈ ends, off + c < e → off + cnt < e) ∧ (c = 0 → off = total)

/-- the refusal: the entry at `off` alone is longer than `cnt` -/
def SmallWin (ends : List Nat) (total off cnt : Nat) : Prop :=
  off < total ∧ ∀ e ∈ ends, off < e → off + cnt < e

/-- the offset test of `Ufs.Read` refuses exactly what is neither 0 nor the end of an entry -/
theorem offset_refused_iff {ends : List Nat} {total : Nat} (h : Snap ends total) (off : Nat) :
    (off ≠ 0 ∧ (off > total ∨ searchInts ends off ≥ ends.length ∨
      ends.getD (searchInts ends off) 0 ≠ off)) ↔ ¬ (off = 0 ∨ off ∈ ends) := by
  have hmem := search_mem_iff h.sorted off
  have := fun hm => h.le_total off (hmem.2 hm)
  rw [hmem]
  omega

/-- At an allowed offset the reply reaches to the last boundary (`off` itself, or the end of an entry) not
    beyond `off + cnt`; it is refused as too small when that boundary is `off` and the directory goes on. -/
theorem window_cut (ends : List Nat) (total off cnt : Nat) (h : Snap ends total)
    (hoff : off = 0 ∨ off ∈ ends) :
    ∃ k, window ends total off cnt = (if k = 0 ∧ off < total then .tooSmall else .ok k) ∧
      off + k ≤ total ∧ k ≤ cnt ∧ (k = 0 ∨ off + k ∈ ends) ∧
      ∀ e ∈ ends, e ≤ off + k ∨ off + cnt < e := by
  have hle := h.le_total
  have hofft : off ≤ total := hoff.elim (· ▸ Nat.zero_le _) (hle _)
  unfold window
  simp only [if_neg fun hb => (offset_refused_iff h off).1 hb hoff, if_neg (Nat.not_lt.2 hofft)]
  generalize hc0 : (if total - off > cnt then cnt else total - off) = c0
  have hc : c0 ≤ cnt ∧ off + c0 ≤ total ∧ (c0 < cnt → off + c0 = total) := by split at hc0 <;> omega
  obtain ⟨ha1, ha2⟩ := search_above h.sorted (off + c0)
  obtain ⟨hb1, hb2⟩ := search_below h.sorted (off + c0)
  generalize searchInts ends (off + c0) = m at *
  -- the count Go computes in `int` is a natural number `k`, and `off + k` is that boundary
  have key : ∃ k : Nat,
      (if m < ends.length ∧ ends.getD m 0 > off + c0 then
        (if m > 0 then (ends.getD (m - 1) 0 : Int) - off else 0) else (c0 : Int)) = k ∧
      k ≤ cnt ∧ (k = 0 ∨ off + k ∈ ends) ∧ ∀ e ∈ ends, e ≤ off + k ∨ off + cnt < e := by
    by_cases hcut : m < ends.length ∧ ends.getD m 0 > off + c0
    · -- the window would end inside the entry at index `m`: back to the entry before it
      rw [if_pos hcut]
      -- that entry ends within `total`, so `c0 = cnt`; it is the least one not below `off + cnt`
      have hs := hle _ (ha1 hcut.1).1
      by_cases hm0 : m > 0
      · rw [if_pos hm0]
        obtain ⟨hp, hpx⟩ := hb1 hm0
        have hop : off ≤ ends.getD (m - 1) 0 := by
          rcases hoff with rfl | hm
          · exact Nat.zero_le _
          · have := ha2 off hm
            have := hb2 off hm
            omega
        refine ⟨ends.getD (m - 1) 0 - off, by omega, by omega, .inr (by rw [Nat.add_sub_cancel' hop]; exact hp),
          fun e he => ?_⟩
        have := ha2 e he
        have := hb2 e he
        omega
      · rw [if_neg hm0]
        refine ⟨0, rfl, Nat.zero_le _, .inl rfl, fun e he => ?_⟩
        have := ha2 e he
        have := hb2 e he
        omega
    · rw [if_neg hcut]
      refine ⟨c0, rfl, hc.1, ?_, fun e he => by have := hle e he; omega⟩
      by_cases hz : c0 = 0
      · exact .inl hz
      · obtain ⟨hlt, _⟩ := ha2 total (h.total_mem (by omega)) hc.2.1
        obtain ⟨hmem, hge⟩ := ha1 hlt
        exact .inr ((show ends.getD m 0 = off + c0 by omega) ▸ hmem)
  obtain ⟨k, hk, hkc, hkm, hka⟩ := key
  have hkt : off + k ≤ total := hkm.elim (· ▸ hofft) (hle _)
  refine ⟨k, ?_, hkt, hkc, hkm, hka⟩
  rw [hk]
  by_cases h0 : k = 0 ∧ off < total
  · rw [if_pos h0, if_pos (by omega)]
  · rw [if_neg h0, if_neg (by omega), if_neg (by omega), Int.toNat_natCast]

theorem sorted_split (b : Nat) : ∀ (l : List Nat), l.Pairwise (· < ·) →
    l.filter (· ≤ b) ++ l.filter (b < ·) = l
  | [], _ => rfl
  | x :: l, hs => by
    obtain ⟨hx, hl⟩ := List.pairwise_cons.1 hs
    by_cases hxb : x ≤ b
    · simp [hxb, Nat.not_lt.2 hxb, sorted_split b l hl]
    · have h1 : l.filter (· ≤ b) = [] :=
        List.filter_eq_nil_iff.2 fun y hy => by have := hx y hy; simp only [decide_eq_true_eq]; omega
      have h2 : l.filter (b < ·) = l :=
        List.filter_eq_self.2 fun y hy => by have := hx y hy; simp only [decide_eq_true_eq]; omega
      simp [hxb, Nat.lt_of_not_le hxb, h1, h2]

theorem records_then_rest (ends : List Nat) (hs : ends.Pairwise (· < ·)) (off c : Nat) :
    recordsIn ends off c ++ ends.filter (off + c < ·) = ends.filter (off < ·) := by
  have hsp := congrArg (List.filter (off < ·)) (sorted_split (off + c) ends hs)
  rw [List.filter_append, List.filter_filter, List.filter_filter] at hsp
  rw [← hsp]
  congr 1
  exact List.filter_congr fun e _ => by simp only [← Bool.decide_and, decide_eq_decide]; omega

end G9.Ufs
