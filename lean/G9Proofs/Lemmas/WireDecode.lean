/-
  The decoder on arbitrary bytes: it never traps, and what a successful `Unpack` says about the
  message it returns.  One walk through `gstat`, `unpackBody`, `Unpack` gives both (`Res.Post`).
-/
import G9Proofs.Lemmas.WirePack
namespace G9
open Go

theorem gstat_post (dotu : Bool) (p : Bytes) :
    (gstat dotu p).Post fun (d, r) =>
      Spec.statStrOk dotu d ∧ normStat dotu d = d ∧ statsz dotu d + r.length = p.length := by
  unfold gstat
  refine .guard fun h41 => ?_
  refine (gint16_post (by omega)).bind₂ fun _ p0 l0 => ?_
  refine (gint16_post (by omega)).bind₂ fun _ p1 l1 => ?_
  refine (gint32_post (by omega)).bind₂ fun _ p2 l2 => ?_
  refine (gqid_post (by omega)).bind₂ fun _ p3 l3 => ?_
  refine (gint32_post (by omega)).bind₂ fun _ p4 l4 => ?_
  refine (gint32_post (by omega)).bind₂ fun _ p5 l5 => ?_
  refine (gint32_post (by omega)).bind₂ fun _ p6 l6 => ?_
  refine (gint64_post (by omega)).bind₂ fun _ p7 l7 => ?_
  refine gstr_post fun name q1 k1 m1 => ?_
  refine gstr_post fun uid q2 k2 m2 => ?_
  refine gstr_post fun gid q3 k3 m3 => ?_
  refine gstr_post fun muid q4 k4 m4 => ?_
  cases dotu
  · refine ⟨⟨k1, k2, k3, k4, nofun⟩, rfl, ?_⟩
    simp only [statsz, Bool.false_eq_true, if_false]
    omega
  · refine gstr_post fun ext q5 k5 m5 => ?_
    refine .guard fun h12 => ?_
    refine (gint32_post (by omega)).bind₂ fun _ r0 n0 => ?_
    refine (gint32_post (by omega)).bind₂ fun _ r1 n1 => ?_
    refine (gint32_post (by omega)).bind₂ fun _ r2 n2 => ?_
    refine ⟨⟨k1, k2, k3, k4, fun _ => k5⟩, rfl, ?_⟩
    simp only [statsz, if_true]
    omega

/-- The guard `len(p) < minFc[u]size[t]` of `Unpack` asks for at least what the plain table says: the .u
    table never asks for less. -/
theorem minSize_ok (dotu : Bool) (t : UInt8)
    (ht : ¬ (t.toNat < Generated.Tversion ∨ t.toNat ≥ Generated.Tlast)) :
    ∃ sz, minSize dotu t = .ok sz ∧
      ∀ k, Generated.minFcsize[t.toNat - Generated.Tversion]? = some k → k ≤ sz := by
  have key : ∀ i < 28, ∃ a ∈ Generated.minFcsize[i]?, ∃ b ∈ Generated.minFcusize[i]?, a ≤ b := by decide
  obtain ⟨a, ha, b, hb, hab⟩ := key (t.toNat - Generated.Tversion) (by
    simp only [Generated.Tversion, Generated.Tlast] at ht ⊢; omega)
  unfold minSize
  cases dotu
  · exact ⟨a, by simp [Option.mem_def.1 ha], fun k hk => by rw [ha] at hk; cases hk; exact Nat.le_refl _⟩
  · exact ⟨b, by simp [Option.mem_def.1 hb], fun k hk => by rw [ha] at hk; cases hk; exact hab⟩

/-- what `Unpack` guarantees of a message decoded from `n` body bytes under type byte `t`;
    `n + 4`: a .u Tauth/Tattach without the numeric uid is re-encoded with one -/
def Decoded (dotu : Bool) (t : UInt8) (n : Nat) (m : Msg) : Prop :=
  m.code = t ∧ norm dotu m = m ∧ (Spec.body dotu m).length ≤ n + 4 ∧
  (7 + (Spec.body dotu m).length < 4294967296 → Spec.RepW dotu m)

-- an encoding's length as its constructor computes it, against what the readers took
macro "lens" : tactic =>
  `(tactic| (simp only [body_length, packParts, if_true, Bool.false_eq_true, if_false]; omega))

theorem unpackBody_post (dotu : Bool) (t : UInt8) (p : Bytes)
    (hfix : ∀ k, Generated.minFcsize[t.toNat - Generated.Tversion]? = some k → k ≤ p.length) :
    (unpackBody dotu t p).Post fun (m, _) => Decoded dotu t p.length m := by
  unfold unpackBody
  -- arm by arm of the `switch`: what the table guarantees, then field by field
  refine .ite (fun ht => ?_) fun _ => ?_    -- case Tversion, Rversion
  · have : 6 ≤ p.length := by rcases ht with rfl | rfl <;> exact hfix 6 rfl
    refine (gint32_post (by omega)).bind₂ fun ms p1 e1 => ?_
    refine gstr_post fun v p2 k l => ?_
    -- `+decide`: which of the arm's type codes `t` is (`100 = 100`, `101 = 100`)
    rcases ht with rfl | rfl <;> simp +decide only [if_true, if_false] <;>
      exact ⟨rfl, rfl, by lens, fun hsz => ⟨hsz, k⟩⟩
  refine .ite (fun ht => ?_) fun _ => ?_    -- case Tauth
  · subst ht
    have := hfix 8 rfl
    refine (gint32_post (by omega)).bind₂ fun afid p1 e1 => ?_
    refine gstr_post fun un p2 k2 l2 => ?_
    refine gstr_post fun an p3 k3 l3 => ?_
    cases dotu
    · exact ⟨rfl, rfl, by lens, fun hsz => ⟨hsz, k2, k3⟩⟩
    · refine .ite (fun _ => .ite (fun h4 => ?_) fun _ => ?_) nofun
      · refine (gint32_post h4).bind₂ fun n p4 e4 => ?_
        exact ⟨rfl, rfl, by lens, fun hsz => ⟨hsz, k2, k3⟩⟩
      · exact ⟨rfl, rfl, by lens, fun hsz => ⟨hsz, k2, k3⟩⟩
  refine .ite (fun ht => ?_) fun _ => ?_    -- case Rauth, Rattach
  · have : 13 ≤ p.length := by rcases ht with rfl | rfl <;> exact hfix 13 rfl
    refine (gqid_post this).bind₂ fun q p1 e1 => ?_
    rcases ht with rfl | rfl <;> simp +decide only [if_true, if_false] <;>
      exact ⟨rfl, rfl, by lens, fun hsz => ⟨hsz, trivial⟩⟩
  refine .ite (fun ht => ?_) fun _ => ?_    -- case Tflush
  · subst ht
    refine (gint16_post (hfix 2 rfl)).bind₂ fun ot p1 e1 => ?_
    exact ⟨rfl, rfl, by lens, fun hsz => ⟨hsz, trivial⟩⟩
  refine .ite (fun ht => ?_) fun _ => ?_    -- case Tattach
  · subst ht
    have := hfix 12 rfl
    refine (gint32_post (by omega)).bind₂ fun fid p0 e0 => ?_
    refine (gint32_post (by omega)).bind₂ fun afid p1 e1 => ?_
    refine gstr_post fun un p2 k2 l2 => ?_
    refine gstr_post fun an p3 k3 l3 => ?_
    cases dotu
    · exact ⟨rfl, rfl, by lens, fun hsz => ⟨hsz, k2, k3⟩⟩
    · refine .ite (fun _ => .ite (fun h4 => ?_) fun _ => ?_) nofun
      · refine (gint32_post h4).bind₂ fun n p4 e4 => ?_
        exact ⟨rfl, rfl, by lens, fun hsz => ⟨hsz, k2, k3⟩⟩
      · exact ⟨rfl, rfl, by lens, fun hsz => ⟨hsz, k2, k3⟩⟩
  refine .ite (fun ht => ?_) fun _ => ?_    -- case Rerror
  · subst ht
    refine gstr_post fun e p1 k l => ?_
    cases dotu
    · exact ⟨rfl, rfl, by lens, fun hsz => ⟨hsz, k⟩⟩
    · refine .ite (fun _ => .guard fun h4 => ?_) nofun
      refine (gint32_post (by omega)).bind₂ fun c p2 e2 => ?_
      exact ⟨rfl, rfl, by lens, fun hsz => ⟨hsz, k⟩⟩
  refine .ite (fun ht => ?_) fun _ => ?_    -- case Twalk
  · subst ht
    have := hfix 10 rfl
    refine (gint32_post (by omega)).bind₂ fun fid p1 e1 => ?_
    refine (gint32_post (by omega)).bind₂ fun nf p2 e2 => ?_
    refine (gint16_post (by omega)).bind₂ fun cnt p3 e3 => ?_
    refine .guard fun _ => ?_
    split
    · trivial
    next ns p4 s4 =>
    obtain ⟨g1, g2, g3⟩ := gstrs_inv s4
    rw [strs_length] at g3
    have hc := cnt.toNat_lt
    exact ⟨rfl, rfl, by lens, fun hsz => ⟨hsz, by rw [g1]; omega, g2⟩⟩
  refine .ite (fun ht => ?_) fun _ => ?_    -- case Rwalk
  · subst ht
    refine (gint16_post (hfix 2 rfl)).bind₂ fun cnt p1 e1 => ?_
    refine .guard fun _ => ?_
    refine (gqids_post _ (by omega)).bind₂ fun qs p2 ⟨g1, g2⟩ => ?_
    have hc := cnt.toNat_lt
    exact ⟨rfl, rfl, by lens, fun hsz => ⟨hsz, by omega⟩⟩
  refine .ite (fun ht => ?_) fun _ => ?_    -- case Topen
  · subst ht
    have := hfix 5 rfl
    refine (gint32_post (by omega)).bind₂ fun fid p1 e1 => ?_
    refine (gint8_post (by omega)).bind₂ fun mode p2 e2 => ?_
    exact ⟨rfl, rfl, by lens, fun hsz => ⟨hsz, trivial⟩⟩
  refine .ite (fun ht => ?_) fun _ => ?_    -- case Ropen, Rcreate
  · have : 17 ≤ p.length := by rcases ht with rfl | rfl <;> exact hfix 17 rfl
    refine (gqid_post (by omega)).bind₂ fun q p1 e1 => ?_
    refine (gint32_post (by omega)).bind₂ fun io p2 e2 => ?_
    rcases ht with rfl | rfl <;> simp +decide only [if_true, if_false] <;>
      exact ⟨rfl, rfl, by lens, fun hsz => ⟨hsz, trivial⟩⟩
  refine .ite (fun ht => ?_) fun _ => ?_    -- case Tcreate
  · subst ht
    have := hfix 11 rfl
    refine (gint32_post (by omega)).bind₂ fun fid p1 e1 => ?_
    refine gstr_post fun name p2 k2 l2 => ?_
    refine .guard fun _ => ?_
    refine (gint32_post (by omega)).bind₂ fun perm p3 e3 => ?_
    refine (gint8_post (by omega)).bind₂ fun mode p4 e4 => ?_
    cases dotu
    · exact ⟨rfl, rfl, by lens, fun hsz => ⟨hsz, k2, nofun⟩⟩
    · refine gstr_post fun ext p5 k5 l5 => ?_
      exact ⟨rfl, rfl, by lens, fun hsz => ⟨hsz, k2, fun _ => k5⟩⟩
  refine .ite (fun ht => ?_) fun _ => ?_    -- case Tread
  · subst ht
    have := hfix 16 rfl
    refine (gint32_post (by omega)).bind₂ fun fid p1 e1 => ?_
    refine (gint64_post (by omega)).bind₂ fun off p2 e2 => ?_
    refine (gint32_post (by omega)).bind₂ fun cnt p3 e3 => ?_
    exact ⟨rfl, rfl, by lens, fun hsz => ⟨hsz, trivial⟩⟩
  refine .ite (fun ht => ?_) fun _ => ?_    -- case Rread
  · subst ht
    refine (gint32_post (hfix 4 rfl)).bind₂ fun cnt p1 e1 => ?_
    refine .guard fun _ => ?_
    refine (need_post (by omega)).bind₂ fun _ r e2 => ?_
    exact ⟨rfl, rfl, by lens, fun hsz => ⟨hsz, trivial⟩⟩
  refine .ite (fun ht => ?_) fun _ => ?_    -- case Twrite
  · subst ht
    have := hfix 16 rfl
    refine (gint32_post (by omega)).bind₂ fun fid p1 e1 => ?_
    refine (gint64_post (by omega)).bind₂ fun off p2 e2 => ?_
    refine (gint32_post (by omega)).bind₂ fun cnt p3 e3 => ?_
    refine .guard fun hcnt => ?_
    refine (need_post (by omega)).bind₂ fun _ r e4 => ?_
    exact ⟨rfl, rfl, by lens, fun hsz => ⟨hsz, by omega⟩⟩
  refine .ite (fun ht => ?_) fun _ => ?_    -- case Rwrite
  · subst ht
    refine (gint32_post (hfix 4 rfl)).bind₂ fun cnt p1 e1 => ?_
    exact ⟨rfl, rfl, by lens, fun hsz => ⟨hsz, trivial⟩⟩
  refine .ite (fun ht => ?_) fun _ => ?_    -- case Tclunk, Tremove, Tstat
  · have : 4 ≤ p.length := by rcases ht with rfl | rfl | rfl <;> exact hfix 4 rfl
    refine (gint32_post this).bind₂ fun fid p1 e1 => ?_
    rcases ht with rfl | rfl | rfl <;> simp +decide only [if_true, if_false] <;>
      exact ⟨rfl, rfl, by lens, fun hsz => ⟨hsz, trivial⟩⟩
  refine .ite (fun ht => ?_) fun _ => ?_    -- case Rstat
  · subst ht
    have := hfix 4 rfl
    refine (gint16_post (by omega)).bind₂ fun _ p1 e1 => ?_
    refine (gstat_post dotu p1).bind₂ fun d p2 ⟨g1, g2, g3⟩ => ?_
    exact ⟨rfl, congrArg Msg.rstat g2, by lens, fun hsz => ⟨hsz, g1⟩⟩
  refine .ite (fun ht => ?_) fun _ => ?_    -- case Twstat
  · subst ht
    have := hfix 8 rfl
    refine (gint32_post (by omega)).bind₂ fun fid p0 e0 => ?_
    refine (gint16_post (by omega)).bind₂ fun _ p1 e1 => ?_
    refine (gstat_post dotu p1).bind₂ fun d p2 ⟨g1, g2, g3⟩ => ?_
    exact ⟨rfl, congrArg (Msg.twstat fid) g2, by lens, fun hsz => ⟨hsz, g1⟩⟩
  -- left: the four messages without a body, and the `default:`
  refine .ite (fun ht => ?_) fun _ => .ite (fun ht => ?_) fun _ => .ite (fun ht => ?_) fun _ =>
    .ite (fun ht => ?_) fun _ => trivial
  all_goals subst ht; exact ⟨rfl, rfl, Nat.zero_le _, fun hsz => ⟨hsz, trivial⟩⟩

theorem unpackRest_post (dotu : Bool) (size : Nat) (t : UInt8) (tag : UInt16) (p : Bytes) :
    (unpackRest dotu size t tag p).Post fun (_, m, n) =>
      n = size ∧ ¬ (t.toNat < Generated.Tversion ∨ t.toNat ≥ Generated.Tlast) ∧
      Decoded dotu t p.length m := by
  unfold unpackRest
  refine .guard fun ht => ?_
  obtain ⟨sz, hm, hfix⟩ := minSize_ok dotu t ht
  rw [hm]
  refine .guard fun hsz => ?_
  refine (unpackBody_post dotu t p fun k hk => Nat.le_trans (hfix k hk) (Nat.le_of_not_lt hsz)).bind₂
    fun m rest hd => ?_
  exact .guard fun _ => ⟨rfl, ht, hd⟩

theorem unpack_eq (dotu : Bool) (buf : Bytes) (h7 : 7 ≤ buf.length) :
    unpack dotu buf =
      (if (dec32 (buf.take 4)).toNat > buf.length ∨ (dec32 (buf.take 4)).toNat < 7 then .err .sizeBad
       else unpackRest dotu (dec32 (buf.take 4)).toNat ((buf.drop 4).headD 0)
              (dec16 ((buf.drop 5).take 2)) ((buf.drop 7).take ((dec32 (buf.take 4)).toNat - 7))) := by
  unfold unpack
  rw [if_neg (by omega), gint32_ok (by omega)]
  simp only [Res.ok_bind]
  rw [gint8_ok (by simp only [List.length_drop]; omega)]
  simp only [Res.ok_bind]
  rw [gint16_ok (by simp only [List.length_drop]; omega)]
  simp only [Res.ok_bind, List.drop_drop]
  split
  · rfl
  · rw [need_ok (by simp only [List.length_drop]; omega)]
    rfl

theorem unpack_post (dotu : Bool) (bs : Bytes) :
    (unpack dotu bs).Post fun (_, m, n) =>
      n = (dec32 (bs.take 4)).toNat ∧ 7 ≤ n ∧ n ≤ bs.length ∧
      ¬ (((bs.drop 4).headD 0).toNat < Generated.Tversion ∨ ((bs.drop 4).headD 0).toNat ≥ Generated.Tlast) ∧
      Decoded dotu ((bs.drop 4).headD 0) (n - 7) m := by
  by_cases h7 : bs.length < 7
  · unfold unpack; rw [if_pos h7]; trivial
  rw [unpack_eq dotu bs (by omega)]
  refine .guard fun hs => ?_
  refine (unpackRest_post ..).imp fun (_, m, n) ⟨hn, ht, hd⟩ => ?_
  subst hn
  refine ⟨rfl, by omega, by omega, ht, ?_⟩
  rwa [List.length_take, List.length_drop, Nat.min_eq_left (by omega)] at hd

end G9
