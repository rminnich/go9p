/-
  Shared tag, one at a time: sessions without Tflush (`LS.plain`) and their invariant `PI` (the table of a tag is
  the queue of its requests).  Most steps leave tables, log and reply queue alone and go through `pi_frame`.
-/
import G9Proofs.Lemmas.LifeInv
namespace G9.Life

/-- `nextreq.next = nil` cuts the list off behind `m` -/
theorem cutAfter_append {m : Nat} {a b : List Nat} (hm : m ∉ a) : cutAfter m (a ++ m :: b) = a ++ [m] := by
  unfold cutAfter
  rw [if_pos (List.mem_append_right _ List.mem_cons_self),
    List.takeWhile_append_of_pos (p := fun x => decide (x ≠ m)) fun x hx => decide_eq_true fun e => hm (e ▸ hx),
    List.takeWhile_cons_of_neg (by simp), List.append_nil]

def BeforeL (l : List Nat) (a b : Nat) : Prop := ∃ x y z, l = x ++ (a :: (y ++ (b :: z)))

/-- worker states that occur when no Tflush is ever received -/
def okp : WPC → Prop
  | .queued | .start | .checked false | .inImpl | .tail | .ended => True
  | _ => False

def plainReq (q : Req) : Prop := q.oldtag = none ∧ q.fl = false ∧ q.flushreq = none ∧ okp q.wpc

/-- every older request of `b`'s tag has left the tag table -/
def Clear (s : LS) (b : Nat) : Prop := ∀ a, a < b → (s.req a).tag = (s.req b).tag → a ∈ s.unl

/-- The table of a tag holds exactly its requests that have not left it, newest first; whoever is started
    finds every older request of its tag gone from it (so its reply, if any, already queued). -/
structure PI (s : LS) : Prop where
  -- no Tflush, nothing flushed, no flush chain
  pr : ∀ r, plainReq (s.req r)
  -- only the implementation calls Respond, and it finds no flushes to answer
  ins : ∀ it ∈ s.insts, it.rid ∈ s.implLog ∧ it.cur = none
  -- what the implementation was handed is received and started
  log : ∀ r ∈ s.implLog, r < s.n ∧ (s.req r).wpc ≠ .queued
  -- only what it was handed is answered
  rsl : ∀ r, (s.req r).rs = true → r ∈ s.implLog
  -- newest first
  srt : ∀ T, (s.chain T).Pairwise (· > ·)
  mem : ∀ T a, a ∈ s.chain T ↔ (a < s.n ∧ (s.req a).tag = T ∧ a ∉ s.unl)
  -- who has left the table is answered, with no call in flight
  un : ∀ a ∈ s.unl, Gone s a
  -- `req.next.prev = req`
  lnk : ∀ T l₁ q l₂, s.chain T = l₁ ++ q :: l₂ → (s.req q).prev = l₁.getLast?
  st : ∀ b, b < s.n → (s.req b).wpc ≠ .queued → Clear s b
  -- as `st`, of the request that a call of Respond is about to start
  nx : ∀ it ∈ s.insts, it.pc = .next → ∀ m, it.nxt = some m → m < s.n ∧ Clear s m
  -- under one tag, replies are queued and requests handed over in order of arrival
  ord : ∀ a b, a < b → (s.req a).tag = (s.req b).tag → b ∈ out s → a ∈ out s → Before (out s) a b
  ex : ∀ a b, a < b → (s.req a).tag = (s.req b).tag → b ∈ s.implLog → Before s.implLog a b

theorem pi_init (cap : Nat) : PI (LS.init cap) := by
  constructor <;> simp [LS.init, out, okp, plainReq]

theorem unl_log {s : LS} (h : PI s) {a : Nat} (ha : a ∈ s.unl) : a ∈ s.implLog := h.rsl a (h.un a ha).1

theorem inFlight_not_unl {s : LS} (h : PI s) {i : Nat} {it : Inst} (hit : s.insts[i]? = some it)
    (hin : inFlight it.pc = true) : it.rid ∉ s.unl := fun hu =>
  absurd (h.un _ hu).2
    (Nat.ne_of_gt (List.countP_pos_iff.mpr ⟨it, List.mem_of_getElem? hit, onPc_iff.mpr ⟨rfl, hin⟩⟩))

theorem log_clear {s : LS} (h : PI s) {b : Nat} (hb : b ∈ s.implLog) : Clear s b :=
  h.st b (h.log b hb).1 (h.log b hb).2

/-- what a step that receives nothing may do to the record of `x`: mark it answered if the implementation
    has it, move its worker on if it is, or may be, started -/
structure ReqStep (s : LS) (x : Nat) (q' : Req) : Prop where
  tag : q'.tag = (s.req x).tag
  prev : q'.prev = (s.req x).prev
  plain : plainReq q'
  rs : q'.rs = true → x ∈ s.implLog
  -- if the worker moves, then not to `queued`, and it was started or may be now
  wpc : q'.wpc = (s.req x).wpc ∨ (q'.wpc ≠ .queued ∧ ((s.req x).wpc ≠ .queued ∨ Clear s x))

theorem ReqStep.refl {s : LS} (h : PI s) (x : Nat) : ReqStep s x (s.req x) := ⟨rfl, rfl, h.pr x, h.rsl x, Or.inl rfl⟩

theorem ReqStep.upd {s : LS} (h : PI s) {i : Nat} {v : Req} (hv : ReqStep s i v) (x : Nat) :
    ReqStep s x (upd s.req i v x) := by
  by_cases hx : x = i
  · rw [hx, upd_same]; exact hv
  · rw [upd_other _ _ _ _ hx]; exact ReqStep.refl h x

/-- steps that receive, hand over, queue and unlink nothing -/
theorem pi_frame {s s' : LS} (h : PI s) {R : Nat → Req} {I : List Inst} {ro w : List Nat} {c : Bool}
    (hs' : s' = { s with req := R, insts := I, reqout := ro, wire := w, closed := c }) (hout : out s' = out s)
    (hreq : ∀ x, ReqStep s x (R x)) (hun : ∀ x ∈ s.unl, Gone s' x)
    (hins : ∀ it ∈ I, it ∈ s.insts ∨ (it.rid ∈ s.implLog ∧ it.cur = none ∧ it.pc ≠ .next)) : PI s' := by
  subst hs'
  have etag : ∀ r, (R r).tag = (s.req r).tag := fun r => (hreq r).tag
  have hclr : ∀ b, Clear s b → ∀ a, a < b → (R a).tag = (R b).tag → a ∈ s.unl := fun b hc a hab htg => by
    rw [etag a, etag b] at htg; exact hc a hab htg
  refine { pr := fun r => (hreq r).plain, rsl := fun r hr => (hreq r).rs hr, srt := h.srt, un := hun,
           lnk := fun T l₁ q l₂ hc => (hreq q).prev.trans (h.lnk T l₁ q l₂ hc),
           ins := fun it hit => (hins it hit).elim (h.ins it) fun k => ⟨k.1, k.2.1⟩,
           log := ?log, mem := ?mem, st := ?st, nx := ?nx, ord := ?ord, ex := ?ex }
  case log =>
    intro r hr
    refine ⟨(h.log r hr).1, ?_⟩
    rcases (hreq r).wpc with k | k
    · rw [k]; exact (h.log r hr).2
    · exact k.1
  case mem => intro T a; rw [etag a]; exact h.mem T a
  case st =>
    intro b hb hw
    rcases (hreq b).wpc with k | ⟨_, k | k⟩
    · rw [k] at hw; exact hclr b (h.st b hb hw)
    · exact hclr b (h.st b hb k)
    · exact hclr b k
  case nx =>
    intro it hit hpc m hm
    rcases hins it hit with h1 | h1
    · exact ⟨(h.nx it h1 hpc m hm).1, hclr m (h.nx it h1 hpc m hm).2⟩
    · exact absurd hpc h1.2.2
  case ord => intro a c hac htg; rw [etag a, etag c] at htg; rw [hout]; exact h.ord a c hac htg
  case ex => intro a c hac htg; rw [etag a, etag c] at htg; exact h.ex a c hac htg

/-- a started request is handed to the implementation -/
theorem pi_log {s s' : LS} (h : PI s) {b : Nat} (hs' : s' = { s with implLog := s.implLog ++ [b] }) (hb : b < s.n)
    (hw : (s.req b).wpc ≠ .queued) : PI s' := by
  subst hs'
  exact { h with
    ins := fun it hit => ⟨List.mem_append_left _ (h.ins it hit).1, (h.ins it hit).2⟩
    log := fun r hr => (List.mem_append.mp hr).elim (h.log r) fun j => by rw [List.mem_singleton.mp j]; exact ⟨hb, hw⟩
    rsl := fun r hr => List.mem_append_left _ (h.rsl r hr)
    ex := fun a c hac htg hc => by
      rcases List.mem_append.mp hc with j | j
      · exact before_append (h.ex a c hac htg j) _
      · -- `b` is started, so `a` has left the table, and had been handed over before that
        rw [List.mem_singleton.mp j] at hac htg ⊢
        exact before_last (unl_log h (h.st b hb hw a hac htg)) _ }

/-- a reply is queued -/
theorem pi_push {s : LS} (h : PI s) {b : Nat} (hb : ∀ c ∈ out s, b < c → (s.req b).tag = (s.req c).tag → False) :
    PI { s with reqout := s.reqout ++ [b] } :=
  { h with
    ord := fun a c hac htg => by
      rw [show out _ = out s ++ [b] from (List.append_assoc ..).symm]
      -- the order "older, under the same tag": by `hb` nothing queued has to come after `b`
      exact before_snoc (R := fun a c => a < c ∧ (s.req a).tag = (s.req c).tag) (fun a c hR => h.ord a c hR.1 hR.2)
        (fun c hR => ⟨fun hc => hb c hc hR.1 hR.2, fun e => Nat.lt_irrefl _ (e ▸ hR.1)⟩) a c ⟨hac, htg⟩ }

/-- A request is received under `tag`: its record goes into the free slot (`rn`), the newest request of the tag
    gets it as `prev` (`rx`).  The new id is above all ids, so the table of its tag stays sorted with the new
    request at the head. -/
theorem pi_recv {s : LS} (h : PI s) (hO : Once s) (tag : Nat) {R : Nat → Req}
    (rn : R s.n = { tag := tag, wpc := if (s.chain tag).isEmpty then .start else .queued })
    (rx : ∀ x, x ≠ s.n →
      R x = { s.req x with prev := if (s.chain tag).head? = some x then some s.n else (s.req x).prev }) :
    PI { s with n := s.n + 1, req := R, chain := updL s.chain tag (s.n :: s.chain tag) } := by
  have tg : ∀ x, x < s.n → (R x).tag = (s.req x).tag := fun x hx => by rw [rx x (Nat.ne_of_lt hx)]
  have wp : ∀ x, x < s.n → (R x).wpc = (s.req x).wpc := fun x hx => by rw [rx x (Nat.ne_of_lt hx)]
  -- an older pair that has one tag now had it before
  have old : ∀ {a b}, a < b → b < s.n → (R a).tag = (R b).tag → (s.req a).tag = (s.req b).tag := fun hab hb htg => by
    rw [tg _ (Nat.lt_trans hab hb), tg _ hb] at htg; exact htg
  have hnu : s.n ∉ s.unl := fun hu => Nat.lt_irrefl _ (h.log _ (unl_log h hu)).1
  refine { ins := h.ins, pr := ?pr, log := ?log, rsl := ?rsl, srt := ?srt, mem := ?mem, un := ?un, lnk := ?lnk,
           st := ?st, nx := ?nx, ord := ?ord, ex := ?ex }
  all_goals dsimp only [Clear]
  case pr =>
    intro r
    by_cases hr : r = s.n
    · rw [hr, rn]; exact ⟨rfl, rfl, rfl, by split <;> trivial⟩
    · rw [rx r hr]; exact h.pr r
  case log =>
    intro r hr
    exact ⟨Nat.lt_succ_of_lt (h.log r hr).1, (wp r (h.log r hr).1).symm ▸ (h.log r hr).2⟩
  case rsl =>
    intro r hr
    by_cases hrn : r = s.n
    · rw [hrn, rn] at hr; cases hr
    · rw [rx r hrn] at hr; exact h.rsl r hr
  case srt =>
    intro T
    by_cases hT : T = tag
    · rw [hT, updL_same]; exact List.Pairwise.cons (fun x hx => ((h.mem tag x).mp hx).1) (h.srt tag)
    · rw [updL_other _ _ _ _ hT]; exact h.srt T
  case mem =>
    intro T a
    by_cases ha : a = s.n
    · subst ha
      rw [rn]
      by_cases hT : T = tag
      · rw [hT, updL_same]; exact ⟨fun _ => ⟨Nat.lt_succ_self _, rfl, hnu⟩, fun _ => List.mem_cons_self⟩
      · rw [updL_other _ _ _ _ hT]
        exact ⟨fun hm => absurd ((h.mem T _).mp hm).1 (Nat.lt_irrefl _), fun hm => absurd hm.2.1.symm hT⟩
    · have hc : a ∈ updL s.chain tag (s.n :: s.chain tag) T ↔ a ∈ s.chain T := by
        by_cases hT : T = tag
        · rw [hT, updL_same, List.mem_cons]; exact ⟨fun hm => hm.resolve_left ha, Or.inr⟩
        · rw [updL_other _ _ _ _ hT]
      rw [hc, h.mem T a, rx a ha]
      exact ⟨fun ⟨h1, h2⟩ => ⟨Nat.lt_succ_of_lt h1, h2⟩,
             fun ⟨h1, h2⟩ => ⟨Nat.lt_of_le_of_ne (Nat.le_of_lt_succ h1) ha, h2⟩⟩
  case un =>
    intro a ha
    have hlt := (h.log a (unl_log h ha)).1
    exact ⟨by show (R a).rs = true; rw [rx a (Nat.ne_of_lt hlt)]; exact (h.un a ha).1, (h.un a ha).2⟩
  case lnk =>
    -- nobody stands in front of the new request; the old head gets it as `prev`; the rest keep theirs
    intro T l₁ q l₂ hc
    by_cases hT : T = tag
    · rw [hT, updL_same] at hc
      cases l₁ with
      | nil => obtain ⟨rfl, -⟩ := List.cons.inj hc; rw [rn]; rfl
      | cons y l₁ =>
        obtain ⟨rfl, hl⟩ := List.cons.inj hc
        have hq := ((h.mem tag q).mp (hl ▸ List.mem_append_right _ List.mem_cons_self)).1
        rw [rx q (Nat.ne_of_lt hq)]
        dsimp only
        rw [h.lnk tag l₁ q l₂ hl, hl]
        cases l₁ with
        | nil => exact if_pos rfl
        | cons z l₁ =>
          have := (List.pairwise_cons.mp (hl ▸ h.srt tag)).1 q (List.mem_append_right _ List.mem_cons_self)
          exact if_neg fun e => Nat.lt_irrefl _ (Option.some.inj e ▸ this)
    · rw [updL_other _ _ _ _ hT] at hc
      obtain ⟨hq, hqt, -⟩ := (h.mem T q).mp (hc ▸ List.mem_append_right _ List.mem_cons_self)
      rw [rx q (Nat.ne_of_lt hq), ← h.lnk T l₁ q l₂ hc]
      -- `q` stands under `T`, the old head under `tag`
      exact if_neg fun e => hT (hqt.symm.trans ((h.mem tag q).mp (List.mem_of_mem_head? e)).2.1)
  case st =>
    intro b hb hw
    by_cases hbn : b = s.n
    · -- started at once: the table of its tag was empty
      intro a hab htg
      rw [hbn] at hab htg hw
      rw [rn] at hw htg
      rw [tg a hab] at htg
      have hemp : s.chain tag = [] := List.isEmpty_iff.mp (Classical.not_not.mp fun k => hw (if_neg k))
      refine Classical.not_not.mp fun hau => ?_
      have := (h.mem tag a).mpr ⟨hab, htg, hau⟩
      rw [hemp] at this; cases this
    · have hb' : b < s.n := by omega
      rw [wp b hb'] at hw
      exact fun a hab htg => h.st b hb' hw a hab (old hab hb' htg)
  case nx =>
    intro it hit hpc m hm
    obtain ⟨k1, k2⟩ := h.nx it hit hpc m hm
    exact ⟨Nat.lt_succ_of_lt k1, fun a hab htg => k2 a hab (old hab k1 htg)⟩
  case ord =>
    intro a b hab htg hbo
    exact h.ord a b hab (old hab (h.log b (h.rsl b (rs_of_out hO hbo))).1 htg) hbo
  case ex =>
    intro a b hab htg hbl
    exact h.ex a b hab (old hab (h.log b hbl).1 htg) hbl

theorem reqStep_worker {s : LS} (h : PI s) (r : Nat) (wk sv : Bool) {w : WPC} (hok : okp w) (hnq : w ≠ .queued)
    (hst : (s.req r).wpc ≠ .queued ∨ Clear s r) : ReqStep s r { s.req r with wk := wk, sv := sv, wpc := w } :=
  ⟨rfl, rfl, ⟨(h.pr r).1, (h.pr r).2.1, (h.pr r).2.2.1, hok⟩, h.rsl r, Or.inr ⟨hnq, hst⟩⟩

/-- a started worker moves on -/
theorem pi_worker {s s' : LS} (h : PI s) {r : Nat} {wk sv : Bool} {w : WPC}
    (hs' : s' = { s with req := upd s.req r { s.req r with wk := wk, sv := sv, wpc := w } })
    (hw : (s.req r).wpc ≠ .queued) (hok : okp w) (hnq : w ≠ .queued) (hun : ∀ x ∈ s.unl, Gone s' x) : PI s' := by
  subst hs'
  exact pi_frame h rfl rfl (ReqStep.upd h (reqStep_worker h r wk sv hok hnq (Or.inl hw))) hun fun _ => Or.inl

/-- one call of Respond moves on without leaving the tag table -/
theorem pi_move {s s' : LS} (h : PI s) {i : Nat} {it v : Inst} (hit : s.insts[i]? = some it) {R : Nat → Req}
    (hs' : s' = { s with req := R, insts := setInst s.insts i v }) (hreq : ∀ x, ReqStep s x (R x))
    (hv1 : v.rid = it.rid) (hv2 : v.pc ≠ .next) (hv3 : v.cur = it.cur) (hun : ∀ x ∈ s.unl, Gone s' x) : PI s' := by
  subst hs'
  have hi := h.ins it (List.mem_of_getElem? hit)
  exact pi_frame h rfl rfl hreq hun
    (forall_setInst (fun _ => Or.inl) hit fun _ => Or.inr ⟨hv1 ▸ hi.1, hv3.trans hi.2, hv2⟩)

/-- the winner takes its request out of the tag table; `L`, what stood in front of it, stays (`hL`) -/
theorem pi_unlink {s s' : LS} (h : PI s) (hW : OnceIn inFlight s) {i : Nat} {it v : Inst} (hit : s.insts[i]? = some it)
    (hpc : it.pc = .unlink) {L : List Nat}
    (hs' : s' = { s with chain := updL s.chain (s.req it.rid).tag L, unl := it.rid :: s.unl, insts := setInst s.insts i v })
    (hL : ∀ l₁ l₂, s.chain (s.req it.rid).tag = l₁ ++ it.rid :: l₂ → l₁.getLast? = (s.req it.rid).prev → L = l₁)
    (hv1 : v.rid = it.rid) (hv2 : v.pc = .next) (hv3 : v.cur = none) (hv4 : v.nxt = (s.req it.rid).prev)
    (hun : ∀ x ∈ s.unl, Gone s' x) : PI s' := by
  subst hs'
  have hmem := List.mem_of_getElem? hit
  have hil : it.rid ∈ s.implLog := (h.ins it hmem).1
  have hold : Clear s it.rid := log_clear h hil
  have hgone := onceIn_leave hW hit (by rw [hpc]; rfl) (v := v) (by rw [hv2]; rfl)
  obtain ⟨l₁, l₂, hc⟩ :=
    List.append_of_mem ((h.mem _ _).mpr ⟨(h.log _ hil).1, rfl, inFlight_not_unl h hit (by rw [hpc]; rfl)⟩)
  have hl := h.lnk _ l₁ _ l₂ hc
  obtain rfl := hL l₁ l₂ hc hl.symm
  obtain ⟨hLs, htl, hgt⟩ := List.pairwise_append.mp (hc ▸ h.srt _)
  -- the older ones behind it in the table had left it already
  have hLm : ∀ a, a ∈ L ↔ (a < s.n ∧ (s.req a).tag = (s.req it.rid).tag ∧ a ≠ it.rid ∧ a ∉ s.unl) := fun a => by
    constructor
    · intro ha
      obtain ⟨h1, h2, h3⟩ := (h.mem _ a).mp (hc ▸ List.mem_append_left _ ha)
      exact ⟨h1, h2, Nat.ne_of_gt (hgt a ha _ List.mem_cons_self), h3⟩
    · intro ⟨h1, h2, h4, h3⟩
      have := (h.mem _ a).mpr ⟨h1, h2, h3⟩
      rw [hc, List.mem_append, List.mem_cons] at this
      rcases this with k | k | k
      · exact k
      · exact absurd k h4
      · exact absurd (hold a ((List.pairwise_cons.mp htl).1 a k) h2) h3
  refine { pr := h.pr, log := h.log, rsl := h.rsl, ord := h.ord, ex := h.ex,
           st := fun b hb hw a hab htg => List.mem_cons_of_mem _ (h.st b hb hw a hab htg),
           un := fun a ha => (List.mem_cons.mp ha).elim (fun he => he ▸ hgone) (hun a),
           ins := forall_setInst h.ins hit fun _ => ⟨hv1 ▸ hil, hv3⟩,
           srt := ?srt, mem := ?mem, lnk := ?lnk, nx := ?nx }
  all_goals dsimp only [Clear]
  case srt =>
    intro T
    by_cases hT : T = (s.req it.rid).tag
    · rw [hT, updL_same]; exact hLs
    · rw [updL_other _ _ _ _ hT]; exact h.srt T
  case mem =>
    intro T a
    rw [List.mem_cons, not_or]
    by_cases hT : T = (s.req it.rid).tag
    · rw [hT, updL_same]; exact hLm a
    · rw [updL_other _ _ _ _ hT, h.mem]
      exact ⟨fun ⟨h1, h2, h3⟩ => ⟨h1, h2, fun he => hT (he ▸ h2).symm, h3⟩, fun ⟨h1, h2, _, h3⟩ => ⟨h1, h2, h3⟩⟩
  case lnk =>
    intro T a q b hT'
    by_cases hT : T = (s.req it.rid).tag
    · rw [hT, updL_same] at hT'
      exact h.lnk _ a q (b ++ it.rid :: l₂) (by rw [hc, hT', List.append_assoc]; rfl)
    · rw [updL_other _ _ _ _ hT] at hT'; exact h.lnk T a q b hT'
  case nx =>
    intro it' hit' hpc' m hm
    rcases mem_setInst hit' with rfl | h1
    · -- the request to be started stood right in front: all older ones have left now
      rw [hv4, hl] at hm
      obtain ⟨L', rfl⟩ := List.getLast?_eq_some_iff.mp hm
      obtain ⟨k1, k2, -⟩ := (hLm m).mp (List.mem_append_right _ (List.mem_singleton_self m))
      refine ⟨k1, fun a ha htg => Classical.not_not.mp fun hn => ?_⟩
      rw [List.mem_cons, not_or] at hn
      rcases List.mem_append.mp ((hLm a).mpr ⟨Nat.lt_trans ha k1, htg.trans k2, hn⟩) with k | k
      · exact Nat.lt_asymm ha ((List.pairwise_append.mp hLs).2.2 a k m (List.mem_singleton_self m))
      · exact Nat.lt_irrefl _ (List.mem_singleton.mp k ▸ ha)
    · obtain ⟨k1, k2⟩ := h.nx it' h1 hpc' m hm
      exact ⟨k1, fun a ha htg => List.mem_cons_of_mem _ (k2 a ha htg)⟩

theorem pi_step {s s' : LS} {e : Ev} (hI : Inv s) (h : PI s) (hp : s.plain e = true) (hst : Step s e s') : PI s' := by
  have hun : ∀ x ∈ s.unl, Gone s' x := fun x hx => gone_step hst x (h.log x (unl_log h hx)).1 (h.un x hx)
  cases hst with
  | recv tag ot hc =>
    cases ot with
    | some o => cases hp
    | none => exact pi_recv h hI.once tag (upd_same ..) fun x hx => by rw [upd_other _ _ _ _ hx, linkPrev_eq]
  | implFlush => cases hp   -- not plain, like a Tflush received
  -- impossible where no Tflush was received: a worker outside `okp`, a Tflush, a flush chain, flushes to answer
  | selfRespond r _ hw | lookupNone r _ hw | lookupSome r _ hw | flushMark r _ _ hw | actNone r _ hw | actCancel r _ _ hw
    | actOp r _ _ hw => have := (h.pr r).2.2.2; rw [hw] at this; exact this.elim
  | dispatchFl r _ _ ot ho => rw [(h.pr r).1] at ho; cases ho
  | unlinkMove i it _ _ _ _ _ fr hfr | unlinkRestart i it _ _ _ _ _ fr hfr => rw [(h.pr it.rid).2.2.1] at hfr; cases hfr
  | flushesAdv i it hit _ f hcur | flushesCall i it hit _ f hcur =>
    rw [(h.ins it (List.mem_of_getElem? hit)).2] at hcur; cases hcur
  -- not tame: an older request of the tag is still in the table
  | unlinkMid i it hit hpc od hod => simp [LS.plain, LS.tame, hit, hod] at hp
  | check r hr hw => exact pi_worker h rfl (by rw [hw]; nofun) (by rw [(h.pr r).2.1]; trivial) nofun hun
  | implReturn r hr hw | procEnd r hr hw => exact pi_worker h rfl (by rw [hw]; nofun) trivial nofun hun
  | dispatchOp r hr hw ho =>
    exact pi_log (pi_worker h (w := .inImpl) rfl (by rw [hw]; nofun) trivial nofun hun) rfl hr
      (by show (upd _ _ _ _).wpc ≠ _; rw [upd_same]; nofun)
  | answer r hr hm =>
    refine pi_frame h rfl rfl (ReqStep.refl h) hun fun it hit => ?_
    refine (List.mem_append.mp hit).imp_right fun h1 => ?_
    rw [List.mem_singleton.mp h1]; exact ⟨hm, rfl, nofun⟩
  | markLost i it hit hpc hrs | markWon i it hit hpc hrs =>
    exact pi_move h hit rfl
      (ReqStep.upd h ⟨rfl, rfl, h.pr it.rid, fun _ => (h.ins it (List.mem_of_getElem? hit)).1, Or.inl rfl⟩)
      rfl nofun rfl hun
  | post i it hit hpc | queueDrop i it hit hpc | nextNone i it hit hpc | flushesEnd i it hit hpc =>
    exact pi_move h hit rfl (ReqStep.refl h) rfl nofun rfl hun
  | queuePush i it hit hpc =>
    -- no newer request of the tag has a reply queued: it would have found this one gone
    have hp := pi_push h fun c hc hlt htg =>
      inFlight_not_unl h hit (by rw [hpc]; rfl) (log_clear h (h.rsl c (rs_of_out hI.once hc)) it.rid hlt htg)
    exact pi_move hp hit rfl (ReqStep.refl hp) rfl nofun rfl hun
  | nextStart i it hit hpc m hn =>
    exact pi_move h hit rfl
      (ReqStep.upd h (reqStep_worker h m _ _ trivial nofun (Or.inr (h.nx it (List.mem_of_getElem? hit) hpc m hn).2)))
      rfl nofun rfl hun
  | unlinkLast i it hit hpc hod hpv =>
    -- no `prev`: nothing stood in front of the request, and the table is left empty
    exact pi_unlink h hI.flight hit hpc rfl (fun l₁ _ _ hl => (List.getLast?_eq_none_iff.mp (hl.trans hpv)).symm) rfl rfl
      (h.pr it.rid).2.2.1 hpv.symm hun
  | unlinkNext i it hit hpc hod m hpv hfr =>
    refine pi_unlink h hI.flight hit hpc rfl (fun l₁ l₂ hc hl => ?_) rfl rfl rfl hpv.symm hun
    -- `m` stands right in front of the request; the table is cut off behind `m`
    obtain ⟨a, rfl⟩ := List.getLast?_eq_some_iff.mp (hl.trans hpv)
    rw [hc, List.append_assoc]
    have hs := (List.pairwise_append.mp (List.pairwise_append.mp (hc ▸ h.srt _)).1).2.2
    exact cutAfter_append fun hm => Nat.lt_irrefl m (hs m hm m (List.mem_singleton_self m))
  | send r rest hro hc =>
    refine pi_frame h rfl ?_ (ReqStep.refl h) hun fun _ => Or.inl
    show (s.wire ++ [r]) ++ rest = s.wire ++ s.reqout
    rw [hro, List.append_assoc]; rfl
  | close hc => exact pi_frame h rfl rfl (ReqStep.refl h) hun fun _ => Or.inl

theorem pi_runP (es : List Ev) (s s' : LS) (h : Inv s ∧ PI s) (hr : s.runP es = some s') : Inv s' ∧ PI s' :=
  guarded_inv LS.isRunP (P := fun s => Inv s ∧ PI s)
    (fun _ _ _ ⟨hI, h⟩ hp hst => ⟨hst.inv hI, pi_step hI h hp hst⟩) es s s' h hr

theorem pi_reach {cap : Nat} {es : List Ev} {s : LS} (h : (LS.init cap).runP es = some s) : PI s :=
  (pi_runP es _ s ⟨inv_init cap, pi_init cap⟩ h).2

end G9.Life
