/-
  The readers of p9.go one by one.  Each has two faces: on the bytes its printer wrote it
  returns the value and what followed (`g (pr v ++ r) = ok (v, r)`), and on arbitrary bytes
  it either traps because too few are there or takes a known number of them (`Res.Post`).
-/
import G9.Wire.Go
namespace G9
open Go

theorem need_ok {n : Nat} {p : Bytes} (h : n ≤ p.length) : need n p = .ok (p.take n, p.drop n) := by
  unfold need; simp only [List.length_take]; rw [if_neg (by omega)]

theorem need_inv {n : Nat} {p h r : Bytes} (hn : need n p = .ok (h, r)) : r.length + n = p.length := by
  unfold need at hn
  simp only [List.length_take] at hn
  split at hn
  · cases hn
  · cases hn; simp only [List.length_drop]; omega

@[simp] theorem need_append (a r : Bytes) (n : Nat) (h : a.length = n) :
    need n (a ++ r) = .ok (a, r) := by
  subst h
  simp [need]

theorem need_post {n : Nat} {p : Bytes} (h : n ≤ p.length) :
    (need n p).Post fun (_, r) => r.length + n = p.length := by
  rw [need_ok h]; simp only [Res.Post, List.length_drop]; omega

theorem gint8_ok {p : Bytes} (h : 1 ≤ p.length) : gint8 p = .ok (p.headD 0, p.drop 1) := by
  cases p with
  | nil => simp at h
  | cons a r => rfl
theorem gint16_ok {p : Bytes} (h : 2 ≤ p.length) : gint16 p = .ok (dec16 (p.take 2), p.drop 2) := by
  unfold gint16; rw [need_ok h]; rfl
theorem gint32_ok {p : Bytes} (h : 4 ≤ p.length) : gint32 p = .ok (dec32 (p.take 4), p.drop 4) := by
  unfold gint32; rw [need_ok h]; rfl

theorem gint8_post {p : Bytes} (h : 1 ≤ p.length) :
    (gint8 p).Post fun (_, r) => r.length + 1 = p.length := by
  rw [gint8_ok h]; simp only [Res.Post, List.length_drop]; omega
theorem gint16_post {p : Bytes} (h : 2 ≤ p.length) :
    (gint16 p).Post fun (_, r) => r.length + 2 = p.length :=
  (need_post h).bind fun _ hx => hx
theorem gint32_post {p : Bytes} (h : 4 ≤ p.length) :
    (gint32 p).Post fun (_, r) => r.length + 4 = p.length :=
  (need_post h).bind fun _ hx => hx
theorem gint64_post {p : Bytes} (h : 8 ≤ p.length) :
    (gint64 p).Post fun (_, r) => r.length + 8 = p.length :=
  (need_post h).bind fun _ hx => hx

-- one step back through a `do` block that returned a value: the first call returned `(x, p)`
-- (equation `e`), and `h` now speaks of the rest
macro "peel" h:ident x:ident p:ident e:ident : tactic =>
  `(tactic| (obtain ⟨⟨$x:ident, $p:ident⟩, $e:ident, $h:ident⟩ := Res.bind_ok $h; dsimp only at $h:ident))

theorem gint16_inv {p r : Bytes} {v : UInt16} (h : gint16 p = .ok (v, r)) : r.length + 2 = p.length := by
  peel h a q e
  cases h
  exact need_inv e
theorem gint32_inv {p r : Bytes} {v : UInt32} (h : gint32 p = .ok (v, r)) : r.length + 4 = p.length := by
  peel h a q e
  cases h
  exact need_inv e

@[simp] theorem dec16_p16 (v : UInt16) : dec16 (p16 v) = v := by
  show le16 _ _ = v
  rw [le16_eq]
  show UInt16.ofNat (leVal (p16 v)) = v
  rw [p16_eq, leVal_leBytes, Nat.mod_eq_of_lt v.toNat_lt, UInt16.ofNat_toNat]
@[simp] theorem dec32_p32 (v : UInt32) : dec32 (p32 v) = v := by
  show le32 _ _ _ _ = v
  rw [le32_eq]
  show UInt32.ofNat (leVal (p32 v)) = v
  rw [p32_eq, leVal_leBytes, Nat.mod_eq_of_lt v.toNat_lt, UInt32.ofNat_toNat]
@[simp] theorem dec64_p64 (v : UInt64) : dec64 (p64 v) = v := by
  show le64 _ _ _ _ _ _ _ _ = v
  rw [le64_eq]
  show UInt64.ofNat (leVal (p64 v)) = v
  rw [p64_eq, leVal_leBytes, Nat.mod_eq_of_lt v.toNat_lt, UInt64.ofNat_toNat]

theorem gint8_p8 (v : UInt8) (r : Bytes) : gint8 (p8 v ++ r) = .ok (v, r) := rfl
theorem gint16_p16 (v : UInt16) (r : Bytes) : gint16 (p16 v ++ r) = .ok (v, r) := by
  unfold gint16; rw [need_append _ _ 2 rfl]; exact congrArg (fun x => Res.ok (x, r)) (dec16_p16 v)
theorem gint32_p32 (v : UInt32) (r : Bytes) : gint32 (p32 v ++ r) = .ok (v, r) := by
  unfold gint32; rw [need_append _ _ 4 rfl]; exact congrArg (fun x => Res.ok (x, r)) (dec32_p32 v)
theorem gint64_p64 (v : UInt64) (r : Bytes) : gint64 (p64 v ++ r) = .ok (v, r) := by
  unfold gint64; rw [need_append _ _ 8 rfl]; exact congrArg (fun x => Res.ok (x, r)) (dec64_p64 v)

theorem gqid_qid (q : Qid) (r : Bytes) : gqid (Spec.qid q ++ r) = .ok (q, r) := by
  simp [gqid, Spec.qid, List.append_assoc, gint8_p8, gint32_p32, gint64_p64]

theorem gqid_post {p : Bytes} (h : 13 ≤ p.length) :
    (gqid p).Post fun (_, r) => r.length + 13 = p.length := by
  unfold gqid
  refine (gint8_post (by omega)).bind₂ fun _ p1 h1 => ?_
  refine (gint32_post (by omega)).bind₂ fun _ p2 h2 => ?_
  refine (gint64_post (by omega)).bind₂ fun _ p3 h3 => ?_
  show p3.length + 13 = p.length
  omega

theorem gqids_qids (qs : List Qid) (r : Bytes) :
    gqids qs.length (Spec.qids qs ++ r) = .ok (qs, r) := by
  induction qs with
  | nil => rfl
  | cons q qs ih => simp [gqids, Spec.qids, List.append_assoc, gqid_qid, ih]

theorem gqids_post (m : Nat) {p : Bytes} (h : 13 * m ≤ p.length) :
    (gqids m p).Post fun (qs, r) => qs.length = m ∧ r.length + 13 * m = p.length := by
  induction m generalizing p with
  | zero => exact ⟨rfl, rfl⟩
  | succ m ih =>
    unfold gqids
    refine (gqid_post (by omega)).bind₂ fun _ p1 h1 => ?_
    refine (ih (by omega)).bind₂ fun qs p2 ⟨h2, h3⟩ => ?_
    exact ⟨congrArg (· + 1) h2, by omega⟩

theorem u16_toNat_of_lt (n : Nat) (h : n < 65536) : (UInt16.ofNat n).toNat = n := by
  rw [UInt16.toNat_ofNat']; omega
theorem u32_toNat_of_lt (n : Nat) (h : n < 4294967296) : (UInt32.ofNat n).toNat = n := by
  rw [UInt32.toNat_ofNat']; omega

theorem str_length (s : Bytes) : (Spec.str s).length = 2 + s.length := by
  simp [Spec.str, Nat.add_comm]

theorem gstr_iff {p s r : Bytes} : gstr p = some (s, r) ↔ Spec.strOk s ∧ p = Spec.str s ++ r := by
  constructor
  · intro h
    unfold gstr at h
    split at h
    · next a b t =>
      simp only at h
      split at h
      · cases h
      · next hn =>
        cases h
        have hl : (List.take (le16 a b).toNat t).length = (le16 a b).toNat := by
          simp only [List.length_take] at hn ⊢; omega
        refine ⟨by simp only [Spec.strOk, hl]; exact (le16 a b).toNat_lt, ?_⟩
        simp only [Spec.str, hl, UInt16.ofNat_toNat, p16_le16, List.cons_append, List.nil_append,
          List.take_append_drop]
    · cases h
  · rintro ⟨hs, rfl⟩
    obtain ⟨a, b, hp, hn⟩ : ∃ a b, p16 (.ofNat s.length) = [a, b] ∧ (le16 a b).toNat = s.length :=
      ⟨_, _, rfl, (congrArg UInt16.toNat (dec16_p16 _)).trans (u16_toNat_of_lt _ hs)⟩
    rw [Spec.str, hp]
    simp only [List.cons_append, List.nil_append, gstr, hn, List.take_left, List.drop_left, Nat.lt_irrefl, if_false]

theorem gstr_str {s : Bytes} (r : Bytes) (h : s.length < 65536) : gstr (Spec.str s ++ r) = some (s, r) :=
  gstr_iff.2 ⟨h, rfl⟩

theorem gstr_inv {p s r : Bytes} (h : gstr p = some (s, r)) :
    Spec.strOk s ∧ r.length + s.length + 2 = p.length := by
  obtain ⟨hs, rfl⟩ := gstr_iff.1 h
  exact ⟨hs, by simp only [List.length_append, str_length]; omega⟩

/-- Go's `("", nil)` is turned into an error.  Lean shares one matcher among all
    `match gstr p with | none => … | some (s, r) => …`, so this applies to those in `gstat` and `unpackBody`
    as they stand. -/
theorem gstr_post {β : Type} {Q : β → Prop} {p : Bytes} {e : E} {k : Bytes → Bytes → R β}
    (h : ∀ s r, Spec.strOk s → r.length + s.length + 2 = p.length → (k s r).Post Q) :
    (match gstr p with | none => (.err e : R β) | some (s, r) => k s r).Post Q := by
  cases hs : gstr p with
  | none => trivial
  | some x => exact h x.1 x.2 (gstr_inv hs).1 (gstr_inv hs).2

theorem gstrs_strs (ns : List Bytes) (r : Bytes) (h : ∀ n ∈ ns, Spec.strOk n) :
    gstrs ns.length (Spec.strs ns ++ r) = some (ns, r) := by
  induction ns with
  | nil => rfl
  | cons n ns ih =>
    have hn : n.length < 65536 := h n (by simp)
    have ih' := ih (fun m hm => h m (by simp [hm]))
    simp [gstrs, Spec.strs, List.append_assoc, gstr_str _ hn, ih']

theorem gstrs_inv {n : Nat} {p r : Bytes} {ns : List Bytes} (h : gstrs n p = some (ns, r)) :
    ns.length = n ∧ (∀ s ∈ ns, Spec.strOk s) ∧ (Spec.strs ns).length + r.length = p.length := by
  induction n generalizing p ns with
  | zero => cases h; exact ⟨rfl, nofun, by simp [Spec.strs]⟩
  | succ n ih =>
    simp only [gstrs] at h
    split at h
    · cases h
    next s p1 hs =>
    split at h
    · cases h
    next ss p2 hss =>
    cases h
    obtain ⟨h1, h2, h3⟩ := ih hss
    obtain ⟨g1, g2⟩ := gstr_inv hs
    refine ⟨congrArg (· + 1) h1, List.forall_mem_cons.2 ⟨g1, h2⟩, ?_⟩
    simp only [Spec.strs, List.length_append, str_length]; omega

end G9
