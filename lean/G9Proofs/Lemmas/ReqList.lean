/-
  The pending list as clnt_clnt.go links it (G9.ReqList).  `Rep s l`: `reqfirst`, `reqlast` and the
  `next`/`prev` fields are exactly the list `l`.  Appending, unlinking and `ReqFree` keep it: the chain
  is cut at the node concerned and one end of a part gets a new neighbour.
-/
import G9.ReqList
namespace G9.ReqList

/-- every node's `prev` is its predecessor (`p` for the head) and its `next` its successor (`e`
    for the last) -/
def Chain (s : RL) : Option Nat → List Nat → Option Nat → Prop
  | _, [], _ => True
  | p, a :: t, e => s.prev a = p ∧ s.next a = (t.head?.or e) ∧ Chain s (some a) t e

/-- the linked structure is exactly the list `l` -/
structure Rep (s : RL) (l : List Nat) : Prop where
  nodup : l.Nodup
  first : s.first = l.head?
  last : s.last = l.getLast?
  chain : Chain s none l none

theorem append_next (s : RL) (r a : Nat) : (s.append r).next a = if s.last = some a then some r else s.next a := by
  unfold RL.append; cases s.last <;> simp [upd, eq_comm]

theorem append_prev (s : RL) (r a : Nat) : (s.append r).prev a = if a = r then s.last else s.prev a := by
  unfold RL.append; cases s.last <;> simp [upd]

theorem append_first (s : RL) (r : Nat) : (s.append r).first = if s.last = none then some r else s.first := by
  unfold RL.append; cases s.last <;> simp

theorem append_last (s : RL) (r : Nat) : (s.append r).last = some r := by
  unfold RL.append; cases s.last <;> rfl

theorem unlink_next (s : RL) (r a : Nat) :
    (s.unlink r).next a = if s.prev r = some a then s.next r else s.next a := by
  unfold RL.unlink; cases s.prev r <;> cases s.next r <;> simp [upd, eq_comm]

theorem unlink_prev (s : RL) (r a : Nat) :
    (s.unlink r).prev a = if s.next r = some a then s.prev r else s.prev a := by
  unfold RL.unlink; cases s.prev r <;> cases s.next r <;> simp [upd, eq_comm]

theorem unlink_first (s : RL) (r : Nat) : (s.unlink r).first = if s.prev r = none then s.next r else s.first := by
  unfold RL.unlink; cases s.prev r <;> cases s.next r <;> simp

theorem unlink_last (s : RL) (r : Nat) : (s.unlink r).last = if s.next r = none then s.prev r else s.last := by
  unfold RL.unlink; cases s.prev r <;> cases s.next r <;> simp

theorem chain_congr (s s' : RL) : ∀ (l : List Nat) (p e : Option Nat),
    (∀ a ∈ l, s'.next a = s.next a ∧ s'.prev a = s.prev a) → Chain s p l e → Chain s' p l e
  | [], _, _, _, _ => trivial
  | a :: t, _, e, h, ⟨h1, h2, h3⟩ =>
    have ha := h a List.mem_cons_self
    ⟨ha.2.trans h1, ha.1.trans h2, chain_congr s s' t (some a) e (fun b hb => h b (List.mem_cons_of_mem _ hb)) h3⟩

private theorem head_or (t l2 : List Nat) (e : Option Nat) :
    (t ++ l2).head?.or e = t.head?.or (l2.head?.or e) := by
  cases t <;> simp

private theorem getLast_or (a : Nat) (t : List Nat) (p : Option Nat) :
    (a :: t).getLast?.or p = t.getLast?.or (some a) := by
  cases t <;> simp [List.getLast?_cons]

theorem chain_append (s : RL) : ∀ (l1 l2 : List Nat) (p e : Option Nat),
    Chain s p (l1 ++ l2) e ↔ Chain s p l1 (l2.head?.or e) ∧ Chain s (l1.getLast?.or p) l2 e
  | [], l2, p, e => by simp [Chain]
  | a :: t, l2, p, e => by
    simp only [List.cons_append, Chain, chain_append s t l2 (some a) e, head_or, getLast_or a t p, and_assoc]

theorem chain_set_last (s s' : RL) (e' : Option Nat) : ∀ (l : List Nat) (p e : Option Nat), l.Nodup →
    (∀ a ∈ l, s'.prev a = s.prev a) → (∀ a ∈ l, s'.next a = if l.getLast? = some a then e' else s.next a) →
    Chain s p l e → Chain s' p l e'
  | [], _, _, _, _, _, _ => trivial
  | [a], p, e, _, hp, hn, hc => ⟨(hp a (by simp)).trans hc.1, by simpa using hn a (by simp), trivial⟩
  | a :: b :: t, p, e, hnd, hp, hn, hc => by
    obtain ⟨hat, hnd'⟩ := List.nodup_cons.1 hnd
    have hla : (a :: b :: t).getLast? ≠ some a := fun h => hat (List.mem_of_getLast? (List.getLast?_cons_cons ▸ h))
    refine ⟨(hp a (by simp)).trans hc.1, by rw [hn a (by simp), if_neg hla]; exact hc.2.1, ?_⟩
    exact chain_set_last s s' e' (b :: t) (some a) e hnd' (fun c hc => hp c (List.mem_cons_of_mem _ hc))
      (fun c hc => by rw [hn c (List.mem_cons_of_mem _ hc), List.getLast?_cons_cons]) hc.2.2

theorem chain_set_head (s s' : RL) (p' : Option Nat) : ∀ (l : List Nat) (p e : Option Nat), l.Nodup →
    (∀ a ∈ l, s'.next a = s.next a) → (∀ a ∈ l, s'.prev a = if l.head? = some a then p' else s.prev a) →
    Chain s p l e → Chain s' p' l e
  | [], _, _, _, _, _, _ => trivial
  | a :: t, p, e, hnd, hn, hp, hc => by
    have hat := (List.nodup_cons.1 hnd).1
    refine ⟨by simpa using hp a (by simp), (hn a (by simp)).trans hc.2.1, ?_⟩
    refine chain_congr s s' t (some a) e (fun c hc => ⟨hn c (List.mem_cons_of_mem _ hc), ?_⟩) hc.2.2
    rw [hp c (List.mem_cons_of_mem _ hc), if_neg]
    exact fun h => hat (by cases h; exact hc)

theorem append_repr (s : RL) (l : List Nat) (r : Nat) (h : Rep s l) (hr : r ∉ l) (hn : s.next r = none) :
    Rep (s.append r) (l ++ [r]) := by
  have hlr : l.getLast? ≠ some r := fun e => hr (List.mem_of_getLast? e)
  refine ⟨List.nodup_append.2 ⟨h.nodup, by simp, fun a ha b hb e => hr (List.mem_singleton.1 hb ▸ e ▸ ha)⟩,
    ?_, by simp [append_last], (chain_append ..).2 ⟨?_, ?_⟩⟩
  · rw [append_first, h.last, h.first]; cases l <;> simp
  · refine chain_set_last s _ _ l none none h.nodup (fun a ha => ?_) (fun a ha => ?_) h.chain
    · rw [append_prev, if_neg (fun (e : a = r) => hr (e ▸ ha))]
    · rw [append_next, h.last]; rfl
  · exact ⟨by simp [append_prev, h.last], by simp [append_next, h.last, hlr, hn], trivial⟩

theorem repr_split (s : RL) (pre post : List Nat) (r : Nat) (h : Rep s (pre ++ r :: post)) :
    s.prev r = pre.getLast? ∧ s.next r = post.head? ∧ Chain s none pre (some r) ∧ Chain s (some r) post none := by
  obtain ⟨h1, h3, h4, h5⟩ := (chain_append s pre (r :: post) none none).1 h.chain
  exact ⟨by simpa using h3, by simpa using h4, by simpa using h1, h5⟩

theorem unlink_repr (s : RL) (l : List Nat) (r : Nat) (h : Rep s l) (hr : r ∈ l) :
    Rep (s.unlink r) (l.erase r) := by
  obtain ⟨pre, post, rfl⟩ := List.append_of_mem hr
  obtain ⟨hndpre, hndrp, hdis⟩ := List.nodup_append.1 h.nodup
  obtain ⟨-, hndpost⟩ := List.nodup_cons.1 hndrp
  have hrpre : r ∉ pre := fun hm => hdis r hm r (by simp) rfl
  have hpp : ∀ a ∈ pre, ∀ b ∈ post, a ≠ b := fun a ha b hb => hdis a ha b (List.mem_cons_of_mem _ hb)
  obtain ⟨hprev, hnext, hcpre, hcpost⟩ := repr_split s pre post r h
  rw [List.erase_append_right _ hrpre, List.erase_cons_head]
  refine ⟨List.nodup_append.2 ⟨hndpre, hndpost, hpp⟩, ?_, ?_, (chain_append ..).2 ⟨?_, ?_⟩⟩
  · rw [unlink_first, hprev, hnext, h.first]; cases pre <;> simp
  · rw [unlink_last, hprev, hnext, h.last]
    cases post <;> simp [List.getLast?_append, List.getLast?_cons_cons]
  · -- the stretch before `r`: its last node now points past `r`
    refine chain_set_last s _ _ pre none (some r) hndpre (fun a ha => ?_) (fun a ha => ?_) hcpre
    · rw [unlink_prev, hnext, if_neg]
      exact fun e => hpp a ha a (List.mem_of_mem_head? e) rfl
    · rw [unlink_next, hprev, hnext]; simp
  · -- the stretch after `r`: its head now points back past `r`
    refine chain_set_head s _ _ post (some r) none hndpost (fun a ha => ?_) (fun a ha => ?_) hcpost
    · rw [unlink_next, hprev, if_neg]
      exact fun e => hpp a (List.mem_of_getLast? e) a ha rfl
    · rw [unlink_prev, hnext, hprev]; simp

/-- `ReqFree` of a request that is not on the list leaves the list alone and makes the request
    fit to be appended again -/
theorem free_repr (s : RL) (l : List Nat) (r : Nat) (h : Rep s l) (hr : r ∉ l) :
    Rep (s.free r) l ∧ (s.free r).next r = none := by
  refine ⟨⟨h.nodup, h.first, h.last, ?_⟩, by simp [RL.free]⟩
  apply chain_congr s _ l none none _ h.chain
  intro a ha
  have : a ≠ r := fun e => hr (e ▸ ha)
  simp [RL.free, this]

/-- following `next` from `reqfirst` visits exactly the list, in order -/
theorem walk_chain (s : RL) : ∀ (l : List Nat) (p : Option Nat) (fuel : Nat), Chain s p l none → l.length < fuel →
    s.walk fuel l.head? = l
  | [], _, fuel, _, hf => by cases fuel <;> rfl
  | a :: t, p, fuel + 1, ⟨_, h2, h3⟩, hf => by
    rw [List.head?_cons, RL.walk, h2, Option.or_none, walk_chain s t (some a) fuel h3 (Nat.lt_of_succ_lt_succ hf)]

end G9.ReqList
