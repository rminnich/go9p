/-
  Enabledness: a step is enabled as soon as one constructor of `Step` applies (`Step.enabled`).
-/
import G9Proofs.Lemmas.Life
namespace G9.Life

theorem Step.enabled {s s' : LS} {e : Ev} (h : Step s e s') : (s.step e).isSome = true := by rw [h.to_step]; rfl

/-- the event a call of Respond performs next -/
def evOf (i : Nat) : IPC → Option Ev
  | .mark => some (.mark i)
  | .post => some (.post i)
  | .queue => some (.queue i)
  | .unlink => some (.unlink i)
  | .next => some (.next i)
  | .flushes => some (.flushes i)
  | .done => none

/-- only a full reply queue makes a call of Respond wait, for the writer — which is then enabled -/
theorem respond_progress (s : LS) (i : Nat) (it : Inst) (hit : s.insts[i]? = some it) (e : Ev)
    (he : evOf i it.pc = some e) :
    (s.step e).isSome = true ∨
    (it.pc = .queue ∧ s.closed = false ∧ s.cap < s.reqout.length ∧ (s.step .send).isSome = true) := by
  generalize hpc : it.pc = p at he
  cases p <;> cases he
  case queue =>
    by_cases hd : (it.oldFl || s.closed) = true
    · exact .inl (Step.queueDrop i it hit hpc hd).enabled
    by_cases hcap : s.reqout.length ≤ s.cap
    · exact .inl (Step.queuePush i it hit hpc hd hcap).enabled
    -- full, so not empty, and the connection is open: the writer can take a reply
    have hc : ¬ s.closed = true := fun hc => hd (by rw [hc, Bool.or_true])
    cases hro : s.reqout with
    | nil => rw [hro] at hcap; exact absurd (Nat.zero_le _) hcap
    | cons r rest =>
      exact .inr ⟨rfl, Bool.eq_false_iff.2 hc, Nat.lt_of_not_le (hro ▸ hcap), (Step.send r rest hro hc).enabled⟩
  -- elsewhere each branch of the step returns a state: evaluate it
  all_goals refine .inl ?_; simp only [LS.step, hit, hpc, if_true]
  case mark | next => split <;> rfl
  case post => rfl
  case unlink =>
    split; · rfl
    split; · rfl
    split; · rfl
    split <;> rfl
  case flushes =>
    split; · rfl
    split <;> rfl

/-- the event a worker goroutine performs next, when that does not depend on anybody else -/
def wevOf (r : Nat) : WPC → Option Ev
  | .start => some (.check r)
  | .checked false => some (.dispatch r)
  | .checked true => some (.selfRespond r)
  | .fl0 => some (.flushLookup r)
  | .fl1 (some _) => some (.flushMark r)
  | .fl1 none => some (.flushAct r)
  | .fl2 _ _ => some (.flushAct r)
  | .tail => some (.procEnd r)
  | .queued => none      -- waits for its predecessor in the tag group
  | .inImpl => none      -- inside the implementation
  | .ended => none

theorem worker_progress (s : LS) (r : Nat) (hr : r < s.n) (e : Ev) (he : wevOf r (s.req r).wpc = some e)
    (hfl : (s.req r).wpc = .fl0 → (s.req r).oldtag ≠ none) : (s.step e).isSome = true := by
  generalize hw : (s.req r).wpc = w at he
  match w, he with
  | .start, rfl => exact (Step.check r hr hw).enabled
  | .checked true, rfl => exact (Step.selfRespond r hr hw).enabled
  | .checked false, rfl =>
    cases ho : (s.req r).oldtag with
    | none => exact (Step.dispatchOp r hr hw ho).enabled
    | some ot => exact (Step.dispatchFl r hr hw ot ho).enabled
  | .fl0, rfl =>
    cases ho : (s.req r).oldtag with
    | none => exact absurd ho (hfl hw)
    | some ot =>
    cases hl : lookupTarget s.chain r ot with
    | none => exact (Step.lookupNone r hr hw ot ho hl).enabled
    | some t => exact (Step.lookupSome r hr hw ot ho t hl).enabled
  | .fl1 none, rfl => exact (Step.actNone r hr hw).enabled
  | .fl1 (some t), rfl => exact (Step.flushMark r hr t hw).enabled
  | .fl2 t true, rfl => exact (Step.actCancel r hr t hw).enabled
  | .fl2 t false, rfl => exact (Step.actOp r hr t hw).enabled
  | .tail, rfl => exact (Step.procEnd r hr hw).enabled

theorem queued_stuck {s : LS} {r : Nat} (h : (s.req r).wpc = .queued) :
    s.step (.check r) = none ∧ s.step (.dispatch r) = none := by
  constructor <;> simp [LS.step, h]

theorem respond_reaches_wire (s : LS) (i : Nat) (it : Inst) (hit : s.insts[i]? = some it) (hpc : it.pc = .mark)
    (hrs : (s.req it.rid).rs = false) (hfl : (s.req it.rid).fl = false) (hc : s.closed = false)
    (hq : s.reqout = []) :
    ∃ s', s.run [.mark i, .post i, .queue i, .send] = some s' ∧ s'.wire = s.wire ++ [it.rid] ∧
      (s'.req it.rid).rs = true := by
  have hc' : ¬ s.closed = true := by rw [hc]; exact Bool.false_ne_true
  refine ⟨_,
    run_cons (.markWon i it hit hpc (by rw [hrs]; exact Bool.false_ne_true))
    (run_cons (.post i _ (setInst_get hit _) rfl)
    (run_cons (.queuePush i _ (setInst_get (setInst_get hit _) _) rfl ?_ ?_)
    (run_cons (.send it.rid [] ?_ hc') rfl))), rfl, congrArg Req.rs (upd_same _ _ _)⟩
  · show ¬ ((s.req it.rid).fl || s.closed) = true
    rw [hfl, hc]; exact Bool.false_ne_true
  · show s.reqout.length ≤ s.cap
    rw [hq]; exact Nat.zero_le _
  · show s.reqout ++ [it.rid] = [it.rid]
    rw [hq]; rfl

end G9.Life
