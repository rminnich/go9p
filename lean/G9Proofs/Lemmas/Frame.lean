/-
  The receive loop without fuel, and what later bytes do to it: proved once, for the loop whose frames
  may change the configuration (`extractV`); G9.Frame's loop is the case in which they leave it alone.
  Last, the buffer: a frame handed out lies before `base` or in an older array, where no later `Read` writes.
  `dsimp only` here removes the `let`s of the loop's body and reduces a `match` on a known `Head`.
-/
import G9.FrameV
import G9Proofs.Lemmas.Run
namespace G9.Frame
open Go

theorem accepts_len {dotu : Bool} {bs : Bytes} (h : accepts dotu bs = true) : 7 ≤ bs.length := by
  unfold accepts at h
  split at h
  · rename_i x hx
    by_cases h7 : bs.length < 7
    · unfold Go.unpack at hx; rw [if_pos h7] at hx; cases hx
    · omega
  · cases h

/-- what one turn of the loop finds at the head of the unconsumed bytes -/
inductive Head where
  | wait
  | drop                        -- a frame that ends the connection
  | frame (fr rest : Bytes)

def head (cfg : Cfg) (u : Bytes) : Head :=
  if u.length ≤ 4 then .wait
  else
    let sz := (dec32 (u.take 4)).toNat
    if cfg.gate && sz > cfg.msize then .drop
    else if u.length < sz then .wait
    else if !accepts cfg.dotu (u.take sz) then .drop
    else .frame (u.take sz) (u.drop sz)

theorem extractV_succ (upd : Cfg → Bytes → Cfg) (f : Nat) (cfg : Cfg) (u : Bytes) :
    extractV upd (f + 1) cfg u =
      match head cfg u with
      | .wait => ([], u, false, cfg)
      | .drop => ([.drop], [], true, cfg)
      | .frame fr rest =>
        let r := extractV upd f (upd cfg fr) rest
        (.frame fr :: r.1, r.2.1, r.2.2.1, r.2.2.2) := by
  rw [extractV, head]
  -- the same four tests on both sides (`split` costs four times as much)
  by_cases h1 : u.length ≤ 4
  · rw [if_pos h1, if_pos h1]
  rw [if_neg h1, if_neg h1]
  generalize (dec32 (u.take 4)).toNat = sz
  by_cases h2 : (cfg.gate && decide (sz > cfg.msize)) = true
  · rw [if_pos h2, if_pos h2]
  rw [if_neg h2, if_neg h2]
  by_cases h3 : u.length < sz
  · rw [if_pos h3, if_pos h3]
  rw [if_neg h3, if_neg h3]
  by_cases h4 : (!accepts cfg.dotu (u.take sz)) = true
  · rw [if_pos h4, if_pos h4]
  rw [if_neg h4, if_neg h4]

theorem head_frame {cfg : Cfg} {u fr rest : Bytes} (h : head cfg u = .frame fr rest) :
    u = fr ++ rest ∧ 7 ≤ fr.length := by
  unfold head at h
  split at h
  · cases h
  dsimp only at h
  split at h
  · cases h
  split at h
  · cases h
  split at h
  · cases h
  next hacc =>
  cases h
  exact ⟨(List.take_append_drop ..).symm, accepts_len (by simpa using hacc)⟩

theorem head_append (cfg : Cfg) (u b : Bytes) :
    head cfg (u ++ b) =
      match head cfg u with
      | .wait => head cfg (u ++ b)
      | .drop => .drop
      | .frame fr rest => .frame fr (rest ++ b) := by
  unfold head
  by_cases h4 : u.length ≤ 4
  · simp only [if_pos h4]
  have hlen : ¬ (u ++ b).length ≤ 4 := by rw [List.length_append]; omega
  have ht4 : (u ++ b).take 4 = u.take 4 := List.take_append_of_le_length (by omega)
  simp only [if_neg h4, if_neg hlen, ht4]
  split
  · rfl
  by_cases hw : u.length < (dec32 (u.take 4)).toNat
  · simp only [if_pos hw]
  have hw' : ¬ (u ++ b).length < (dec32 (u.take 4)).toNat := by rw [List.length_append]; omega
  simp only [if_neg hw, if_neg hw', List.take_append_of_le_length (Nat.le_of_not_lt hw),
    List.drop_append_of_le_length (Nat.le_of_not_lt hw)]
  split <;> rfl

/-- the loop with fuel to spare (`extractV_fuel`), as `feedV` calls it -/
def exV (upd : Cfg → Bytes → Cfg) (cfg : Cfg) (u : Bytes) : List Out × Bytes × Bool × Cfg :=
  extractV upd (u.length + 1) cfg u

/-- more fuel than bytes changes nothing: every frame taken is at least 7 bytes -/
theorem extractV_fuel (upd : Cfg → Bytes → Cfg) : ∀ (n : Nat) (cfg : Cfg) (u : Bytes) (f g : Nat),
    u.length < n → u.length < f → u.length < g → extractV upd f cfg u = extractV upd g cfg u := by
  intro n
  induction n with
  | zero => nofun
  | succ n ih =>
    intro cfg u f g hn hf hg
    obtain ⟨f, rfl⟩ := Nat.exists_eq_add_one_of_ne_zero (Nat.ne_zero_of_lt hf)
    obtain ⟨g, rfl⟩ := Nat.exists_eq_add_one_of_ne_zero (Nat.ne_zero_of_lt hg)
    rw [extractV_succ, extractV_succ]
    cases h : head cfg u with
    | frame fr rest =>
      obtain ⟨rfl, h7⟩ := head_frame h
      rw [List.length_append] at hn hf hg
      dsimp only
      rw [ih _ rest f g (by omega) (by omega) (by omega)]
    | _ => rfl

theorem exV_unfold (upd : Cfg → Bytes → Cfg) (cfg : Cfg) (u : Bytes) :
    exV upd cfg u =
      match head cfg u with
      | .wait => ([], u, false, cfg)
      | .drop => ([.drop], [], true, cfg)
      | .frame fr rest =>
        let r := exV upd (upd cfg fr) rest
        (.frame fr :: r.1, r.2.1, r.2.2.1, r.2.2.2) := by
  rw [exV, extractV_succ]
  cases h : head cfg u with
  | frame fr rest =>
    obtain ⟨rfl, h7⟩ := head_frame h
    dsimp only
    rw [exV, extractV_fuel upd _ _ rest _ _ (Nat.lt_succ_self _) (by rw [List.length_append]; omega)
      (Nat.lt_succ_self _)]
  | _ => rfl

theorem exV_append (upd : Cfg → Bytes → Cfg) : ∀ (n : Nat) (cfg : Cfg) (u b : Bytes), u.length < n →
    exV upd cfg (u ++ b) =
      if (exV upd cfg u).2.2.1 then exV upd cfg u
      else
        let r := exV upd (exV upd cfg u).2.2.2 ((exV upd cfg u).2.1 ++ b)
        ((exV upd cfg u).1 ++ r.1, r.2.1, r.2.2.1, r.2.2.2) := by
  intro n
  induction n with
  | zero => nofun
  | succ n ih =>
    intro cfg u b hn
    rw [exV_unfold upd cfg u]
    cases h : head cfg u with
    | wait => rfl
    | drop => rw [exV_unfold, head_append, h]; rfl
    | frame fr rest =>
      obtain ⟨rfl, h7⟩ := head_frame h
      rw [List.length_append] at hn
      rw [exV_unfold upd cfg (fr ++ rest ++ b), head_append, h]
      dsimp only
      rw [ih _ rest b (by omega)]
      split <;> rfl

theorem extractV_const (cfg : Cfg) (f : Nat) (u : Bytes) :
    extractV (fun c _ => c) f cfg u =
      ((extract cfg f u).1, (extract cfg f u).2.1, (extract cfg f u).2.2, cfg) := by
  induction f generalizing u with
  | zero => rfl
  | succ f ih =>
    rw [extractV, extract]
    dsimp only
    by_cases h1 : u.length ≤ 4
    · simp only [if_pos h1]
    by_cases h2 : (cfg.gate && decide ((dec32 (u.take 4)).toNat > cfg.msize)) = true
    · simp only [if_neg h1, if_pos h2]
    by_cases h3 : u.length < (dec32 (u.take 4)).toNat
    · simp only [if_neg h1, if_neg h2, if_pos h3]
    by_cases h4 : (!accepts cfg.dotu (u.take (dec32 (u.take 4)).toNat)) = true
    · simp only [if_neg h1, if_neg h2, if_neg h3, if_pos h4]
    simp only [if_neg h1, if_neg h2, if_neg h3, if_neg h4, ih]

def ex (cfg : Cfg) (u : Bytes) : List Out × Bytes × Bool := extract cfg (u.length + 1) u

/-- more fuel than bytes changes nothing: the loop terminates -/
theorem extract_fuel (cfg : Cfg) : ∀ (n : Nat) (u : Bytes) (f : Nat), u.length ≤ n → u.length < f →
    extract cfg f u = ex cfg u := by
  intro _ u f _ hf
  have h := extractV_fuel (fun c _ => c) _ cfg u f _ (Nat.lt_succ_self _) hf (Nat.lt_succ_self _)
  rw [extractV_const, extractV_const] at h
  exact Prod.ext (congrArg (·.1) h) (Prod.ext (congrArg (·.2.1) h) (congrArg (·.2.2.1) h))

theorem feedV_const (cfg : Cfg) (s : RS) (ch : Bytes) :
    feedV (fun c _ => c) ⟨cfg, s.unread, s.dead⟩ ch =
      (⟨cfg, (feed cfg s ch).1.unread, (feed cfg s ch).1.dead⟩, (feed cfg s ch).2) := by
  unfold feedV feed
  dsimp only
  split
  · rfl
  · rw [extractV_const]

/-- `wait` (`top`: `x = msize`) moves to a fresh array or stays: what lay before the buffer still does -/
theorem wait_keeps {b : Buf} (msize x : Nat) {a off len : Nat} (h : a < b.arr ∨ (a = b.arr ∧ off + len ≤ b.base)) :
    a < (b.wait msize x).arr ∨ (a = (b.wait msize x).arr ∧ off + len ≤ (b.wait msize x).base) := by
  unfold Buf.wait
  split
  · exact .inl (by show a < b.arr + 1; omega)
  · exact h

theorem wait_room {b : Buf} (msize x : Nat) (hf : b.base + b.pos ≤ b.cap) (hx : x ≤ 8 * msize) :
    (b.wait msize x).pos = b.pos ∧ (b.wait msize x).base + x ≤ (b.wait msize x).cap := by
  unfold Buf.wait Buf.len
  split
  · exact ⟨rfl, by show 0 + x ≤ 8 * msize; omega⟩
  · exact ⟨rfl, by omega⟩

theorem LS.isRun (msize : Nat) : Run.Of (·.step msize) (LS.run msize) := ⟨fun _ => rfl, fun _ _ _ => rfl⟩

end G9.Frame

namespace G9.C13
open G9.Frame

-- `room`, about to `Read`: no size known and at most its four bytes there, or a partial frame of `sz` bytes, and a
-- whole one fits in the array (`Buf.wait` made room).
structure BInv (msize : Nat) (s : LS) : Prop where
  fits : s.b.base + s.b.pos ≤ s.b.cap
  handed : ∀ a off len, BEv.hand a off len ∈ s.log → a < s.b.arr ∨ (a = s.b.arr ∧ off + len ≤ s.b.base)
  room : match s.mode with
    | .outer 0 => s.b.pos ≤ 4
    | .outer sz => s.b.pos < sz ∧ sz ≤ msize ∧ sz ≤ s.b.len
    | .inner => True

theorem binv_init (msize : Nat) : BInv msize (LS.init msize) :=
  ⟨by simp [LS.init], by simp [LS.init], by simp [LS.init]⟩

theorem binv_step (msize : Nat) (s s' : LS) (st : Step) (h : BInv msize s)
    (hs : s.step msize st = some s') : BInv msize s' := by
  have hf := h.fits
  -- every step is enabled in one mode and under one guard
  cases hmode : s.mode <;> rcases st with n | sz | sz | _ <;>
    simp only [LS.step, hmode, Option.ite_none_right_eq_some, Option.some.injEq, reduceCtorEq] at hs
  all_goals obtain ⟨hg, rfl⟩ := hs
  case outer.read =>
    refine ⟨?_, fun a off len hmem => wait_keeps msize msize (h.handed a off len (by simpa [Buf.read] using hmem)), trivial⟩
    simp only [Buf.read, Buf.len] at hg ⊢
    omega
  case inner.take =>
    refine ⟨by simp only [Buf.consume]; omega, fun a off len hmem => ?_, trivial⟩
    rcases List.mem_cons.1 hmem with e | hmem
    · cases e; exact .inr ⟨rfl, Nat.le_refl _⟩
    · have := h.handed a off len hmem
      simp only [Buf.consume]; omega
  case inner.park =>
    obtain ⟨e, hr⟩ := wait_room msize sz hf (by omega)
    obtain ⟨k, rfl⟩ : ∃ k, sz = k + 1 := ⟨sz - 1, by omega⟩
    refine ⟨?_, fun a off len hmem => wait_keeps _ _ (h.handed a off len hmem), ?_⟩
    · dsimp only; omega
    · simp only [Buf.len]; omega
  case inner.idle =>
    exact ⟨hf, h.handed, hg⟩

end G9.C13
