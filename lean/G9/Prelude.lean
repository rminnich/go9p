/-
  G9.Prelude — bytes, the three-valued result (ok | err | panic), little-endian
  integers.  Core Lean only.
-/
namespace G9

abbrev Bytes := List UInt8

/-- Outcome of a model function that mirrors Go code: a value, a returned Go `error`
    (classified into a small enum `ε`), or a run-time trap (index/slice out of range,
    nil dereference).  "Never panics" is a theorem, not an artefact of totalisation. -/
inductive Res (ε α : Type) where
  | ok (a : α)
  | err (e : ε)
  | panic
  deriving Repr, DecidableEq

namespace Res
variable {ε α β : Type}

@[inline] def bind (x : Res ε α) (f : α → Res ε β) : Res ε β :=
  match x with
  | ok a => f a
  | err e => err e
  | panic => panic

instance : Monad (Res ε) where
  pure := ok
  bind := bind

@[simp] theorem ok_bind (a : α) (f : α → Res ε β) : (ok a : Res ε α) >>= f = f a := rfl
@[simp] theorem err_bind (e : ε) (f : α → Res ε β) : (err e : Res ε α) >>= f = err e := rfl
@[simp] theorem panic_bind (f : α → Res ε β) : (panic : Res ε α) >>= f = panic := rfl
@[simp] theorem pure_eq (a : α) : (pure a : Res ε α) = ok a := rfl

/-- As a `[local congr]` rule this makes `simp` run a `do` block from the front; left to itself it
    walks through the whole continuation after every step. -/
theorem bind_congr {x x' : Res ε α} (f : α → Res ε β) (h : x = x') : (x >>= f) = (x' >>= f) :=
  h ▸ rfl

def isPanic : Res ε α → Bool
  | panic => true
  | _ => false

theorem bind_ok {x : Res ε α} {f : α → Res ε β} {b : β}
    (h : (x >>= f) = ok b) : ∃ a, x = ok a ∧ f a = ok b := by
  cases x with
  | ok a => exact ⟨a, rfl, h⟩
  | err e => cases h
  | panic => cases h

/-- "Never panics" and "what a successful call tells" are two halves of one walk through the
    code, so they are proved together. -/
def Post (x : Res ε α) (Q : α → Prop) : Prop :=
  match x with
  | ok a => Q a
  | err _ => True
  | panic => False

theorem Post.ne_panic {x : Res ε α} {Q : α → Prop} (h : x.Post Q) : x ≠ panic := by
  intro e; subst e; exact h

theorem Post.of_ok {x : Res ε α} {Q : α → Prop} {a : α} (h : x.Post Q) (e : x = ok a) : Q a := by
  subst e; exact h

theorem Post.imp {x : Res ε α} {Q Q' : α → Prop} (hx : x.Post Q) (h : ∀ a, Q a → Q' a) : x.Post Q' := by
  cases x with
  | ok a => exact h a hx
  | err e => trivial
  | panic => exact hx

theorem Post.bind {x : Res ε α} {f : α → Res ε β} {Q : α → Prop} {Q' : β → Prop}
    (hx : x.Post Q) (hf : ∀ a, Q a → (f a).Post Q') : (x >>= f).Post Q' := by
  cases x with
  | ok a => exact hf a hx
  | err e => trivial
  | panic => exact hx

theorem Post.bind₂ {γ : Type} {x : Res ε (α × γ)} {f : α × γ → Res ε β} {Q : α × γ → Prop}
    {Q' : β → Prop} (hx : x.Post Q) (hf : ∀ a c, Q (a, c) → (f (a, c)).Post Q') :
    (x >>= f).Post Q' :=
  hx.bind fun (a, c) h => hf a c h

theorem Post.ite {c : Prop} [Decidable c] {x y : Res ε α} {Q : α → Prop}
    (hx : c → x.Post Q) (hy : ¬ c → y.Post Q) : (if c then x else y).Post Q := by
  split
  · exact hx ‹_›
  · exact hy ‹_›

theorem Post.guard {c : Prop} [Decidable c] {e : ε} {x : Res ε α} {Q : α → Prop}
    (h : ¬ c → x.Post Q) : (if c then err e else x).Post Q :=
  .ite (fun _ => trivial) h

end Res

def p8 (v : UInt8) : Bytes := [v]

def p16 (v : UInt16) : Bytes :=
  [UInt8.ofNat (v.toNat % 256), UInt8.ofNat (v.toNat / 256 % 256)]

def p32 (v : UInt32) : Bytes :=
  [UInt8.ofNat (v.toNat % 256), UInt8.ofNat (v.toNat / 256 % 256),
   UInt8.ofNat (v.toNat / 65536 % 256), UInt8.ofNat (v.toNat / 16777216 % 256)]

def p64 (v : UInt64) : Bytes :=
  [UInt8.ofNat (v.toNat % 256), UInt8.ofNat (v.toNat / 256 % 256),
   UInt8.ofNat (v.toNat / 65536 % 256), UInt8.ofNat (v.toNat / 16777216 % 256),
   UInt8.ofNat (v.toNat / 4294967296 % 256), UInt8.ofNat (v.toNat / 1099511627776 % 256),
   UInt8.ofNat (v.toNat / 281474976710656 % 256), UInt8.ofNat (v.toNat / 72057594037927936 % 256)]

def le16 (a b : UInt8) : UInt16 := UInt16.ofNat (a.toNat + 256 * b.toNat)

def le32 (a b c d : UInt8) : UInt32 :=
  UInt32.ofNat (a.toNat + 256 * b.toNat + 65536 * c.toNat + 16777216 * d.toNat)

def le64 (a b c d e f g h : UInt8) : UInt64 :=
  UInt64.ofNat (a.toNat + 256 * b.toNat + 65536 * c.toNat + 16777216 * d.toNat
    + 4294967296 * e.toNat + 1099511627776 * f.toNat + 281474976710656 * g.toNat
    + 72057594037927936 * h.toNat)

@[simp] theorem p8_length (v : UInt8) : (p8 v).length = 1 := rfl
@[simp] theorem p16_length (v : UInt16) : (p16 v).length = 2 := rfl
@[simp] theorem p32_length (v : UInt32) : (p32 v).length = 4 := rfl
@[simp] theorem p64_length (v : UInt64) : (p64 v).length = 8 := rfl

/-! Both round trips are facts about base-256 digits of any width; `p16 … le64` are the widths
    2, 4, 8 written out. -/

/-- the `k` low bytes of `n`, least significant first -/
def leBytes : Nat → Nat → Bytes
  | 0, _ => []
  | k + 1, n => UInt8.ofNat (n % 256) :: leBytes k (n / 256)

def leVal : Bytes → Nat
  | [] => 0
  | a :: r => a.toNat + 256 * leVal r

theorem leVal_leBytes (k n : Nat) : leVal (leBytes k n) = n % 256 ^ k := by
  induction k generalizing n with
  | zero => simp [leBytes, leVal, Nat.mod_one]
  | succ k ih =>
    simp only [leBytes, leVal, ih, UInt8.toNat_ofNat']
    show n % 256 % 256 + 256 * (n / 256 % 256 ^ k) = n % 256 ^ (k + 1)
    rw [Nat.mod_mod, Nat.pow_succ, Nat.mul_comm _ 256, Nat.mod_mul]

theorem leVal_lt (bs : Bytes) : leVal bs < 256 ^ bs.length := by
  induction bs with
  | nil => exact Nat.one_pos
  | cons a r ih => have := a.toNat_lt; simp only [leVal, List.length_cons, Nat.pow_succ]; omega

theorem leBytes_leVal (bs : Bytes) : leBytes bs.length (leVal bs) = bs := by
  induction bs with
  | nil => rfl
  | cons a r ih =>
    have := a.toNat_lt
    simp only [leVal, List.length_cons, leBytes]
    rw [Nat.add_mul_div_left _ _ (by omega), Nat.add_mul_mod_self_left, Nat.div_eq_of_lt this,
      Nat.zero_add, ih, Nat.mod_eq_of_lt this, UInt8.ofNat_toNat]

theorem p16_eq (v : UInt16) : p16 v = leBytes 2 v.toNat := rfl
-- `leBytes` divides by 256 repeatedly, `p32`/`p64` once by 65536, …: `Nat.div_div_eq_div_mul` joins the divisors
theorem p32_eq (v : UInt32) : p32 v = leBytes 4 v.toNat := by
  simp only [p32, leBytes, Nat.div_div_eq_div_mul]
theorem p64_eq (v : UInt64) : p64 v = leBytes 8 v.toNat := by
  simp only [p64, leBytes, Nat.div_div_eq_div_mul]

theorem le16_eq (a b : UInt8) : le16 a b = UInt16.ofNat (leVal [a, b]) :=
  congrArg UInt16.ofNat (by simp only [leVal]; omega)
theorem le32_eq (a b c d : UInt8) : le32 a b c d = UInt32.ofNat (leVal [a, b, c, d]) :=
  congrArg UInt32.ofNat (by simp only [leVal]; omega)
theorem le64_eq (a b c d e f g h : UInt8) :
    le64 a b c d e f g h = UInt64.ofNat (leVal [a, b, c, d, e, f, g, h]) :=
  congrArg UInt64.ofNat (by simp only [leVal]; omega)

/-- the bytes are determined by the value. -/
theorem p16_le16 (a b : UInt8) : p16 (le16 a b) = [a, b] := by
  rw [le16_eq, p16_eq, UInt16.toNat_ofNat', Nat.mod_eq_of_lt (Nat.lt_of_lt_of_eq (leVal_lt [a, b]) (by decide : 256 ^ 2 = 2 ^ 16))]
  exact leBytes_leVal [a, b]

theorem p32_le32 (a b c d : UInt8) : p32 (le32 a b c d) = [a, b, c, d] := by
  rw [le32_eq, p32_eq, UInt32.toNat_ofNat', Nat.mod_eq_of_lt (Nat.lt_of_lt_of_eq (leVal_lt [a, b, c, d]) (by decide : 256 ^ 4 = 2 ^ 32))]
  exact leBytes_leVal [a, b, c, d]

/-! ### hex, for the line protocol -/

def hexDigit (n : Nat) : Char :=
  if n < 10 then Char.ofNat (48 + n) else Char.ofNat (87 + n)

def toHex (bs : Bytes) : String :=
  String.ofList (bs.foldr (fun b acc => hexDigit (b.toNat / 16) :: hexDigit (b.toNat % 16) :: acc) [])

def hexVal (c : Char) : Option Nat :=
  if '0' ≤ c ∧ c ≤ '9' then some (c.toNat - 48)
  else if 'a' ≤ c ∧ c ≤ 'f' then some (c.toNat - 87)
  else if 'A' ≤ c ∧ c ≤ 'F' then some (c.toNat - 55)
  else none

def ofHexChars : List Char → Option Bytes
  | [] => some []
  | [_] => none
  | a :: b :: rest => do
    let x ← hexVal a
    let y ← hexVal b
    let r ← ofHexChars rest
    pure (UInt8.ofNat (16 * x + y) :: r)

/-- `-` denotes the empty byte string in the line protocol. -/
def ofHex (s : String) : Option Bytes :=
  if s == "-" then some [] else ofHexChars s.toList

def hexOr (bs : Bytes) : String := if bs.isEmpty then "-" else toHex bs

end G9
