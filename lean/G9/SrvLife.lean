/-
  G9.SrvLife — M4: the life of many requests on one connection.
  Mirror of srv_conn.go (`recv` enqueue, `send`), srv_srv.go (`process`, `Respond`, `Flush`)
  and srv_fcall.go (`flush`).  Goroutines are program counters; every event is one
  lock-protected region or one channel operation of the code (the names are those of the
  `verifPoint` schedule points).  Any sequence of enabled events is a schedule; the model
  allows a superset of the code's schedules (a nested `freq.Respond()` may interleave with
  its caller), so invariants proved here hold for every real schedule.
  What a request does to fids is M3's business (`respond.post` is opaque here).
-/
namespace G9.Life

/-- worker program counter of a request -/
inductive WPC where
  | queued                        -- behind an older request with the same tag
  | start                         -- `go req.process()` issued
  | checked (flushed : Bool)      -- past the test of reqFlush in process()
  | inImpl                        -- inside the implementation's operation
  | fl0                           -- Tflush: inside srv.flush, before the lookup
  | fl1 (target : Option Nat)     -- after the lookup under the connection lock
  | fl2 (target : Nat) (cancel : Bool)   -- after the test-and-set under the target's lock
  | tail                          -- back in process(), before its final status update
  | ended
  deriving Repr, DecidableEq

structure Req where
  tag : Nat
  oldtag : Option Nat := none     -- `some t` for a Tflush
  fl : Bool := false              -- reqFlush
  wk : Bool := false              -- reqWork
  rs : Bool := false              -- reqResponded
  sv : Bool := false              -- reqSaved
  flushreq : Option Nat := none   -- req.flushreq: head of the chain of flush requests (linked through their own flushreq)
  prev : Option Nat := none       -- req.prev: the next newer request with the same tag
  wpc : WPC := .queued
  noRun : Bool := false           -- ghost: a Tflush marked it flushed before it started
  looked : Option Nat := none     -- ghost: the request this Tflush found when it looked up its old tag
  deriving Repr

/-- program counter of one call of `req.Respond()` -/
inductive IPC where
  | mark | post | queue | unlink | next | flushes | done
  deriving Repr, DecidableEq

structure Inst where
  rid : Nat
  pc : IPC := .mark
  oldFl : Bool := false           -- status&reqFlush as read at the mark
  nxt : Option Nat := none        -- nextreq
  cur : Option Nat := none        -- freq, the cursor of the loop over flushreqs
  sp : Bool := false              -- freq.Respond() has been called, freq = freq.flushreq has not
  deriving Repr

structure LS where
  n : Nat := 0                            -- requests received so far
  req : Nat → Req := fun _ => { tag := 0 }
  chain : Nat → List Nat := fun _ => []   -- conn.reqs[tag] as a list, newest first
  insts : List Inst := []
  reqout : List Nat := []
  wire : List Nat := []
  cap : Nat := 0                          -- Maxpend
  closed : Bool := false
  implLog : List Nat := []                -- ghost: requests handed to the implementation, in order
  unl : List Nat := []                    -- ghost: requests that have left the tag table through their own Respond

def upd (f : Nat → Req) (i : Nat) (v : Req) : Nat → Req := fun j => if j = i then v else f j
def updL (f : Nat → List Nat) (i : Nat) (v : List Nat) : Nat → List Nat := fun j => if j = i then v else f j

@[simp] theorem upd_same (f : Nat → Req) (i : Nat) (v : Req) : upd f i v i = v := by simp [upd]
@[simp] theorem upd_other (f : Nat → Req) (i j : Nat) (v : Req) (h : j ≠ i) : upd f i v j = f j := by simp [upd, h]

/-- `req.next.prev = req` for the newest request already in the table, if any -/
def linkPrev (f : Nat → Req) (hd : Option Nat) (r : Nat) : Nat → Req := fun j =>
  -- written point-wise: one look-up in `f` per access (as a partial application of a definition
  -- that builds the record first, the compiled code looked `f` up twice per layer, and the cost
  -- of reading a request doubled with every request received under a tag still in the table)
  match hd with
  | some h => if j = h then { f h with prev := some r } else f j
  | none => f j

/-- `srv.flush`'s lookup: the newest request in the table under the old tag — unless that is the
    Tflush itself (a Tflush naming its own tag: whatever it could have flushed ran before it) -/
def lookupTarget (chain : Nat → List Nat) (f ot : Nat) : Option Nat :=
  match (chain ot).head? with
  | some t => if t = f then none else some t
  | none => none

theorem lookupTarget_some {chain : Nat → List Nat} {f ot t : Nat} (h : lookupTarget chain f ot = some t) :
    (chain ot).head? = some t ∧ t ≠ f := by
  unfold lookupTarget at h
  split at h
  · rename_i t' ht
    split at h
    · cases h
    · cases h; exact ⟨ht, by assumption⟩
  · cases h

inductive Ev where
  | recv (tag : Nat) (oldtag : Option Nat)   -- Conn.recv enqueues a request          [recv.enqueued]
  | check (r : Nat)                           -- process(): test reqFlush, set reqWork   [process.check]
  | dispatch (r : Nat)                        -- Process(): the handler is entered
  | selfRespond (r : Nat)                     -- process() of a flushed request: Respond(); return
  | answer (r : Nat)                          -- the implementation (any goroutine) calls req.Respond*()
  | implFlush (r : Nat)                       -- the implementation's FlushOp calls req.Flush()
  | implReturn (r : Nat)                      -- the operation returns to process()
  | procEnd (r : Nat)                         -- process(): clear reqWork, set reqSaved    [process.end]
  | flushLookup (f : Nat)                     -- srv.flush under conn.Lock                 [flush.lookup]
  | flushMark (f : Nat)                       -- srv.flush under the target's lock         [flush.mark]
  | flushAct (f : Nat)                        -- r.Respond() for a cancelled target / FlushOp / own Respond
  | mark (i : Nat)                            -- Respond: test-and-set reqResponded        [respond.mark]
  | post (i : Nat)                            -- Respond: PostProcess                      [respond.post]
  | queue (i : Nat)                           -- Respond: conn.reqout <- req               [respond.queued]
  | unlink (i : Nat)                          -- Respond: under conn.Lock                  [respond.unlink]
  | next (i : Nat)                            -- Respond: go nextreq.process()
  | flushes (i : Nat)                         -- Respond: one iteration of the flushreqs loop
  | send                                      -- Conn.send: take from reqout and write     [send.take/send.write]
  | close                                     -- Conn.close
  deriving Repr

/-- `m.next = nil`: the list reachable from the table ends at `m` -/
def cutAfter (m : Nat) (l : List Nat) : List Nat :=
  if m ∈ l then l.takeWhile (· ≠ m) ++ [m] else l

def setInst (l : List Inst) (i : Nat) (v : Inst) : List Inst := l.set i v

/-- `req.next`: the next older request of the same tag still in the table's chain (newest first) -/
def olderOf (ch : List Nat) (r : Nat) : Option Nat := ((ch.dropWhile (· ≠ r)).tail).head?

def LS.step (s : LS) : Ev → Option LS
  | .recv tag oldtag =>
    if s.closed then none else
    let r := s.n
    let first := (s.chain tag).isEmpty
    -- req.next = conn.reqs[tag]; conn.reqs[tag] = req; req.next.prev = req
    let req0 := linkPrev s.req (s.chain tag).head? r
    some { s with n := s.n + 1,
                  req := upd req0 r { tag := tag, oldtag := oldtag, wpc := if first then .start else .queued },
                  chain := updL s.chain tag (r :: s.chain tag) }
  | .check r =>
    if r < s.n ∧ (s.req r).wpc = .start then
      let q := s.req r
      some { s with req := upd s.req r { q with wk := if q.fl then q.wk else true, wpc := .checked q.fl } }
    else none
  | .dispatch r =>
    if r < s.n ∧ (s.req r).wpc = .checked false then
      let q := s.req r
      match q.oldtag with
      | none => some { s with req := upd s.req r { q with wpc := .inImpl }, implLog := s.implLog ++ [r] }
      | some _ => some { s with req := upd s.req r { q with wpc := .fl0 } }
    else none
  | .selfRespond r =>
    if r < s.n ∧ (s.req r).wpc = .checked true then
      some { s with req := upd s.req r { s.req r with wpc := .ended }, insts := s.insts ++ [{ rid := r }] }
    else none
  | .answer r =>
    -- the implementation was handed r (now or earlier) and answers it, possibly again
    if r < s.n ∧ r ∈ s.implLog then some { s with insts := s.insts ++ [{ rid := r }] } else none
  | .implFlush r =>
    if r < s.n ∧ r ∈ s.implLog then
      some { s with req := upd s.req r { s.req r with fl := true }, insts := s.insts ++ [{ rid := r }] }
    else none
  | .implReturn r =>
    if r < s.n ∧ (s.req r).wpc = .inImpl then some { s with req := upd s.req r { s.req r with wpc := .tail } } else none
  | .procEnd r =>
    if r < s.n ∧ (s.req r).wpc = .tail then
      let q := s.req r
      some { s with req := upd s.req r { q with wk := false, sv := if q.rs then q.sv else true, wpc := .ended } }
    else none
  | .flushLookup f =>
    if f < s.n ∧ (s.req f).wpc = .fl0 then
      let q := s.req f
      match q.oldtag with
      | none => none
      | some ot =>
        match lookupTarget s.chain f ot with
        | none => some { s with req := upd s.req f { q with wpc := .fl1 none } }
        | some t =>
          -- f.flushreq = t.flushreq; t.flushreq = f
          let req1 := upd s.req f { q with flushreq := (s.req t).flushreq }
          let req2 := upd req1 t { req1 t with flushreq := some f }
          some { s with req := upd req2 f { req2 f with wpc := .fl1 (some t), looked := some t } }
    else none
  | .flushMark f =>
    if f < s.n then
      match (s.req f).wpc with
      | .fl1 (some t) =>
        let qt := s.req t
        let cancel := !(qt.wk || qt.sv)
        let early := cancel && (qt.wpc = .queued || qt.wpc = .start)
        let req1 := upd s.req t { qt with fl := if cancel then true else qt.fl, noRun := qt.noRun || early }
        some { s with req := upd req1 f { req1 f with wpc := .fl2 t cancel } }
      | _ => none
    else none
  | .flushAct f =>
    if f < s.n then
      match (s.req f).wpc with
      | .fl1 none =>          -- no request with that tag: answer the Tflush at once
        some { s with req := upd s.req f { s.req f with wpc := .tail }, insts := s.insts ++ [{ rid := f }] }
      | .fl2 t true =>        -- cancelled before work began: r.Respond()
        some { s with req := upd s.req f { s.req f with wpc := .tail }, insts := s.insts ++ [{ rid := t }] }
      | .fl2 _ false =>       -- being worked on: FlushOp (the implementation may call implFlush later)
        some { s with req := upd s.req f { s.req f with wpc := .tail } }
      | _ => none
    else none
  | .mark i =>
    match s.insts[i]? with
    | some it =>
      if it.pc = .mark then
        let q := s.req it.rid
        let s1 := { s with req := upd s.req it.rid { q with rs := true, wk := false } }
        if q.rs then some { s1 with insts := setInst s.insts i { it with pc := .done } }
        else some { s1 with insts := setInst s.insts i { it with pc := .post, oldFl := q.fl } }
      else none
    | none => none
  | .unlink i =>
    match s.insts[i]? with
    | some it =>
      if it.pc = .unlink then
        let q := s.req it.rid
        match olderOf (s.chain q.tag) it.rid with
        | some od =>     -- answered while waiting behind an older request of its tag: out of the chain, nobody started
          some { s with chain := updL s.chain q.tag ((s.chain q.tag).erase it.rid), unl := it.rid :: s.unl,
                        req := upd s.req od { s.req od with prev := q.prev },
                        insts := setInst s.insts i { it with pc := .next, nxt := none, cur := q.flushreq } }
        | none =>
        match q.prev with
        | none =>        -- delete(conn.reqs, tag); flushreqs = req.flushreq
          some { s with chain := updL s.chain q.tag [], unl := it.rid :: s.unl,
                        insts := setInst s.insts i { it with pc := .next, nxt := none, cur := q.flushreq } }
        | some m =>      -- nextreq.next = nil; flushreqs = nil
          let chain' := updL s.chain q.tag (cutAfter m (s.chain q.tag))
          match q.flushreq with
          | none =>
            some { s with chain := chain', unl := it.rid :: s.unl,
                          insts := setInst s.insts i { it with pc := .next, nxt := some m, cur := none } }
          | some fr =>
            if (s.req m).flushreq = none then   -- move them to the next request
              some { s with chain := chain', unl := it.rid :: s.unl, req := upd s.req m { s.req m with flushreq := some fr },
                            insts := setInst s.insts i { it with pc := .next, nxt := some m, cur := none } }
            else
              -- `nextreq = req.flushreq`: the code restarts the flush request instead of the neighbour
              some { s with chain := chain', unl := it.rid :: s.unl,
                            insts := setInst s.insts i { it with pc := .next, nxt := some fr, cur := none } }
      else none
    | none => none
  | .post i =>
    match s.insts[i]? with
    | some it => if it.pc = .post then some { s with insts := setInst s.insts i { it with pc := .queue } } else none
    | none => none
  | .queue i =>
    match s.insts[i]? with
    | some it =>
      if it.pc = .queue then
        if it.oldFl || s.closed then some { s with insts := setInst s.insts i { it with pc := .unlink } }
        else if s.reqout.length ≤ s.cap then
          some { s with reqout := s.reqout ++ [it.rid], insts := setInst s.insts i { it with pc := .unlink } }
        else none
      else none
    | none => none
  | .next i =>
    match s.insts[i]? with
    | some it =>
      if it.pc = .next then
        match it.nxt with
        | none => some { s with insts := setInst s.insts i { it with pc := .flushes } }
        | some m => some { s with req := upd s.req m { s.req m with wpc := .start },
                                  insts := setInst s.insts i { it with pc := .flushes } }
      else none
    | none => none
  | .flushes i =>
    -- for freq := flushreqs; freq != nil; freq = freq.flushreq { freq.Respond() }
    match s.insts[i]? with
    | some it =>
      if it.pc = .flushes then
        match it.cur with
        | none => some { s with insts := setInst s.insts i { it with pc := .done } }
        | some f =>
          if it.sp then some { s with insts := setInst s.insts i { it with cur := (s.req f).flushreq, sp := false } }
          else some { s with insts := setInst (s.insts ++ [{ rid := f }]) i { it with sp := true } }
      else none
    | none => none
  | .send =>
    match s.reqout with
    | [] => none
    | r :: rest => if s.closed then none else some { s with reqout := rest, wire := s.wire ++ [r] }
  | .close => if s.closed then none else some { s with closed := true }

/-- Schedules of an ordinary client's session, for the ordering theorems: no Tflush is aimed at
    another Tflush, a request that leaves the table with flushes waiting on it has no successor
    under its tag (the flushes are not handed over), and the request started by `next` was
    waiting in the queue of its tag. -/
def LS.tame (s : LS) : Ev → Bool
  | .flushLookup f =>
    match (s.req f).oldtag with
    | none => true
    | some ot =>
      match lookupTarget s.chain f ot with
      | none => true
      | some t => (s.req t).oldtag == none
  | .unlink i =>
    match s.insts[i]? with
    | some it => ((s.req it.rid).prev == none || (s.req it.rid).flushreq == none) &&
        olderOf (s.chain (s.req it.rid).tag) it.rid == none
    | none => true
  | .next i =>
    match s.insts[i]? with
    | some it =>
      match it.nxt with
      | some m => (s.req m).wpc == .queued
      | none => true
    | none => true
  | _ => true

def LS.runT (s : LS) : List Ev → Option LS
  | [] => some s
  | e :: es => if s.tame e then (s.step e).bind (fun s' => s'.runT es) else none

/-- Schedules of a session without Tflush (and in which the implementation does not cancel on
    its own): the setting of the shared-tag FIFO theorem. -/
def LS.plain (s : LS) : Ev → Bool
  | .recv _ (some _) => false
  | .implFlush _ => false
  | e => s.tame e

def LS.runP (s : LS) : List Ev → Option LS
  | [] => some s
  | e :: es => if s.plain e then (s.step e).bind (fun s' => s'.runP es) else none

def LS.run (s : LS) : List Ev → Option LS
  | [] => some s
  | e :: es => (s.step e).bind (fun s' => s'.run es)

def LS.init (cap : Nat) : LS := { cap := cap }

end G9.Life
